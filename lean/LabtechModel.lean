import LabtechModel.Model.Generated
import LabtechModel.Model.Run
import LabtechModel.Driver.RunCmd
import LabtechModel.Proofs.RunSteps
import LabtechModel.Proofs.Limit
import LabtechModel.Proofs.Workers
import LabtechModel.Proofs.Plan
import LabtechModel.Proofs.Submit
import LabtechModel.Props.C01
import LabtechModel.Props.C02
import LabtechModel.Props.C03
import LabtechModel.Props.C04
import LabtechModel.Props.C05
import LabtechModel.Props.C10
import LabtechModel.Props.C11
import LabtechModel.Props.C17
import LabtechModel.Model.Env
import LabtechModel.Props.C16
import LabtechModel.Model.Diagram
import LabtechModel.Driver.LdHex
import LabtechModel.Driver.DiagCmd
import LabtechModel.Model.Log
import LabtechModel.Driver.LogCmd
import LabtechModel.Proofs.Diagram
import LabtechModel.Proofs.Log
import LabtechModel.Props.C19
import LabtechModel.Props.C20
import LabtechModel.Model.Path
import LabtechModel.Driver.PathCmd
import LabtechModel.Proofs.PathLemmas
import LabtechModel.Proofs.PathTouch
import LabtechModel.Props.C18
import LabtechModel.Model.Save
import LabtechModel.Driver.SaveCmd
import LabtechModel.Proofs.SaveExec
import LabtechModel.Props.C12
import LabtechModel.Props.C13
import LabtechModel.Model.Store
import LabtechModel.Driver.HistCmd
import LabtechModel.Proofs.StoreLaws
import LabtechModel.Proofs.StoreRefine
import LabtechModel.Props.C06
import LabtechModel.Props.C08
import LabtechModel.Model.Params
import LabtechModel.Driver.ParamsCmd
import LabtechModel.Proofs.ParamsEq
import LabtechModel.Proofs.ParamsNorm
import LabtechModel.Proofs.ParamsSer
import LabtechModel.Proofs.ParamsCache
import LabtechModel.Proofs.ParamsExamples
import LabtechModel.Props.C07
import LabtechModel.Props.C09
import LabtechModel.Props.C15
import LabtechModel.Proofs.InvDefs
import LabtechModel.Proofs.InvPlan
import LabtechModel.Proofs.InvList
import LabtechModel.Proofs.InvTS
import LabtechModel.Proofs.InvRun
import LabtechModel.Proofs.InvYield
import LabtechModel.Proofs.InvLoop
import LabtechModel.Proofs.InvLive
import LabtechModel.Proofs.InvMain
import LabtechModel.Proofs.InvRef
import LabtechModel.Model.Intr
import LabtechModel.Driver.IntrCmd
import LabtechModel.Proofs.IntrBasic
import LabtechModel.Proofs.IntrRefine
import LabtechModel.Proofs.IntrSafe
import LabtechModel.Proofs.IntrWalk
import LabtechModel.Proofs.IntrStream
import LabtechModel.Proofs.IntrTrace
import LabtechModel.Proofs.IntrRun
import LabtechModel.Proofs.IntrStore
import LabtechModel.Proofs.IntrAlive
import LabtechModel.Proofs.IntrDrain
import LabtechModel.Props.C14
import LabtechModel.Proofs.Inv2Flag
import LabtechModel.Proofs.Inv2Ref
import LabtechModel.Proofs.Inv2Main
import LabtechModel.Proofs.Inv2FailFast
import LabtechModel.Proofs.Inv2Count
import LabtechModel.Proofs.Inv2Need
import LabtechModel.Proofs.Inv2Erase
import LabtechModel.Proofs.LinkNeeded
import LabtechModel.Proofs.LinkSpec
import LabtechModel.Proofs.LinkSched
import LabtechModel.Proofs.LinkKeys
import LabtechModel.Proofs.LinkExampleKeys
import LabtechModel.Proofs.LinkExample
import LabtechModel.Proofs.PathRoot
import LabtechModel.Proofs.IntrLimit
import LabtechModel.Proofs.IntrLimitW
import LabtechModel.Proofs.IntrLimitS
import LabtechModel.Proofs.DumpsInjNum
import LabtechModel.Proofs.DumpsInjStr
import LabtechModel.Proofs.DumpsInj
import LabtechModel.Proofs.LinkDumps
import LabtechModel.Driver.FtokCmd
import LabtechModel.Proofs.IntrGuard
import LabtechModel.Proofs.IntrDeps
import LabtechModel.Proofs.IntrOnce
import LabtechModel.Proofs.IntrResults
import LabtechModel.Model.OSet
import LabtechModel.Driver.OsetCmd
import LabtechModel.Proofs.OSet
import LabtechModel.Model.ClassRes
import LabtechModel.Driver.ClsresCmd
import LabtechModel.Proofs.ClassRes
