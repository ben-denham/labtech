import LabtechModel.Proofs.Limit
import LabtechModel.Proofs.InvMain
import LabtechModel.Proofs.IntrDeps
/-!
# C02 — A task never starts before all of its dependencies have finished

Proved here (all problems, configurations, cache pre-states, schedules):
* a task is only ever submitted from `get_ready_tasks`, which lists a pending task only when its
  set of pending dependencies is empty (`submitted_has_no_pending_deps`);
* `complete_task` is the only operation that shrinks a pending-dependency set, and it removes
  exactly the completing task (`complete_only_unblocks_itself`);
* inside `run()` a dependency is read by its own identity from the results visible to the worker:
  a missing entry (failed or died dependency) is a raise, never a default or another task's value
  (`read_is_own_or_raises`).
Whole runs (every problem, configuration, cache pre-state, fuel and schedule; no hypothesis needed;
from the master invariant `Reach` of `Proofs/InvLoop.lean`):
* `start_after_deps` / `start_after_deps_loophead`: in the trace of a run (and of every loop-head
  state) every `submit t`, `start t` and `exec t` is preceded by a `yield d` of every recorded direct
  dependency `d` of `t`;
* `ddeps_complete`: the recorded direct dependencies of `t` contain the tid of every task object
  found in the parameters of every planned object of `t`, unless `t` is served from cache;
* `dep_result_visible`: when `run()` of `t` is executed, what it reads comes from a snapshot in
  which every direct dependency `d` has the value `v` iff `d` was yielded with `ok v` before — so a
  dependency that failed or died has *no* entry and the read raises (`read_is_own_or_raises`);
  `dep_read_value` spells this out per parameter object.
At every instant of every interrupted run (statement-level model M10, `Proofs/IntrDeps.lean`; no hypothesis):
* `start_after_deps_every_instant` / `_handler` / `_second` / `start_after_deps_interrupted`: the same
  statement for the trace of the state after EVERY primitive prefix of the main stream, of the first
  Ctrl-C handler entered at any instant, and of the second handler entered at any instant of the first;
  `pending_deps_shrink_only_by_yield`: the mechanism, in all those states.
Not covered: that `exec t` comes after `start t` of the same task (not recorded in the trace
predicate), and nested containers (the model's `children` is already the flattened list).
-/
namespace Lt.Props.C02
open Lt

/-- every task handed to `start_task`/`submit_task` in the submit phase has no pending dependency -/
theorem submitted_has_no_pending_deps (p : Problem) (rs : RS) (t : Tid)
    (h : t ∈ readyTasks p rs.ts) : rs.ts.pendDeps t = [] ∧ t ∈ rs.ts.pending :=
  readyTasks_no_pending_deps p rs.ts t h

/-- what `unblock t ds` leaves of the pending-dependency sets: everything, except `t` in the sets of `ds` -/
theorem unblock_mem (t : Tid) : ∀ (ds : List Tid) (pd pd' : Tid → List Tid),
    unblock t ds pd = some pd' → ∀ x y, y ∈ pd' x ↔ y ∈ pd x ∧ (y = t → x ∉ ds) := by
  intro ds
  induction ds with
  | nil => intro pd pd' h x y; simp only [unblock, Option.some.injEq] at h; subst h; simp
  | cons d ds ih =>
    intro pd pd' h x y
    simp only [unblock] at h
    cases hr : setRemove (pd d) t with
    | none => simp [hr] at h
    | some l =>
      simp only [hr] at h
      rw [ih _ _ h x y, (setRemove_some _ _ _ hr).2]
      by_cases hx : x = d
      · subst hx
        by_cases hy : y = t <;> simp [upd, hy]
      · simp [upd, hx]

/-- completing `t` never adds a pending dependency and only ever removes `t` itself -/
theorem complete_only_unblocks_itself (s s' : TS) (t : Tid) (rem : List Tid)
    (h : completeTask s t = some (s', rem)) (x y : Tid) (hy : y ∈ s'.pendDeps x) :
    y ∈ s.pendDeps x := by
  obtain ⟨act, pd, pdt, rem0, _, hpd, _, hs, _⟩ := completeTask_some s s' t rem h
  subst hs
  exact ((unblock_mem t _ _ _ hpd x y).mp hy).1

/-- a dependency that is pending for `x` stays pending until that very dependency completes -/
theorem pending_dep_stays_until_it_completes (s s' : TS) (t : Tid) (rem : List Tid)
    (h : completeTask s t = some (s', rem)) (x y : Tid) (hy : y ∈ s.pendDeps x) (hne : y ≠ t) :
    y ∈ s'.pendDeps x := by
  obtain ⟨act, pd, pdt, rem0, _, hpd, _, hs, _⟩ := completeTask_some s s' t rem h
  subst hs
  exact (unblock_mem t _ _ _ hpd x y).mpr ⟨hy, fun h => absurd h hne⟩

/-- what `run()` reads for a dependency object is the entry stored under that dependency's own
    tid in the results visible to the worker; if there is none the read raises (`none`) -/
theorem read_is_own_or_raises (p : Problem) (i : Iid) (snap : List (Tid × Val)) :
    reads p i snap = (p.children i).map (fun c => lookup (p.tidOf c) snap) := rfl

theorem lookup_some_mem (t : Tid) (v : Val) : ∀ (l : List (Tid × Val)), lookup t l = some v → (t, v) ∈ l :=
  lookup_mem t v

/-- a failed or died dependency has no entry, so it is read as a raise: `processYield` stores a
    result only for an `ok` outcome -/
theorem failed_outcome_stores_nothing (cfg : Config) (req : List Tid) (rs : RS) (t : Tid) (o : Outcome)
    (ho : ∀ v, o ≠ .ok v) (d : Tid) (v : Val) (h : (d, v) ∈ (processYield cfg req rs t o).results) :
    (d, v) ∈ rs.results := by
  cases o with
  | ok v' => exact absurd rfl (ho v')
  | exc | died =>
    simp only [processYield] at h
    split at h
    · exact h
    · simp only at h; split at h
      · simp only [removeResults, List.mem_filter] at h; exact h.1
      · exact h

/-! non-vacuity: a task with a dependency is not ready until the dependency completed -/
def exP : Problem where
  tidOf := fun i => i
  children := fun i => if i = 1 then [0] else []
  requested := [1]
  ty := fun _ => 0
  maxPar := fun _ => none
  cacheable := fun _ => false
  fails := fun _ => false
  dies := fun _ => false
  behave := fun t _ => some t
def exCfg : Config := { backend := .spawn, maxWorkers := 4, contOnFail := true, bust := false }

example : readyTasks exP (plan exCfg exP [] 3) = [0] ∧ (plan exCfg exP [] 3).pendDeps 1 = [0] ∧
    (run exCfg exP [] 3 [⟨fun _ => true⟩, ⟨fun _ => true⟩, ⟨fun _ => true⟩]).status = .returned [(1, 1)] := by
  decide +kernel

/-- in every loop-head trace a task is submitted, started and executed only after every one of
    its recorded direct dependencies has been yielded (finished, failed or died) -/
theorem start_after_deps_loophead (cfg : Config) (p : Problem) (store : Store) (fuel : Nat) (sched : List Choice)
    (pre post : List Ev) (e : Ev) (t : Tid)
    (he : (∃ uc, e = Ev.submit t uc) ∨ e = Ev.start t ∨ (∃ seen, e = Ev.exec t seen))
    (h : (runLoop cfg p (reqTids p) sched (initRS cfg p store fuel)).trace = pre ++ e :: post) :
    ∀ d ∈ (plan cfg p store fuel).ddeps t, ∃ o, Ev.yield d o ∈ pre :=
  loopHead_after_deps cfg p store fuel sched pre post e t he h

/-- the same for the trace of a whole run -/
theorem start_after_deps (cfg : Config) (p : Problem) (store : Store) (fuel : Nat) (sched : List Choice)
    (pre post : List Ev) (e : Ev) (t : Tid)
    (he : (∃ uc, e = Ev.submit t uc) ∨ e = Ev.start t ∨ (∃ seen, e = Ev.exec t seen))
    (h : (run cfg p store fuel sched).trace = pre ++ e :: post) :
    ∀ d ∈ (plan cfg p store fuel).ddeps t, ∃ o, Ev.yield d o ∈ pre := by
  rw [run_trace] at h
  exact loopHead_after_deps cfg p store fuel sched pre post e t he h

/-- the recorded direct dependencies are complete: every task object in the parameters of a planned,
    not-cached object of `t` is one -/
theorem ddeps_complete (cfg : Config) (p : Problem) (store : Store) (fuel : Nat) (t : Tid) (i : Iid)
    (hi : i ∈ (plan cfg p store fuel).instances t) (hc : useCache cfg p store t = false) :
    ∀ c ∈ p.children i, p.tidOf c ∈ (plan cfg p store fuel).ddeps t :=
  plan_ddeps_complete cfg p store fuel t i hi hc

/-- when `run()` of `t` executes, its reads come from a snapshot that holds for each direct dependency
    exactly the value it was yielded with (none if it failed or died) -/
theorem dep_result_visible (cfg : Config) (p : Problem) (store : Store) (fuel : Nat) (sched : List Choice)
    (pre post : List Ev) (t : Tid) (seen : List (Option Val))
    (h : (run cfg p store fuel sched).trace = pre ++ Ev.exec t seen :: post) :
    ∃ snap, seen = reads p (repr0 (plan cfg p store fuel) t) snap ∧
      ∀ d ∈ (plan cfg p store fuel).ddeps t,
        (∃ o, Ev.yield d o ∈ pre) ∧ ∀ v, (lookup d snap = some v ↔ Ev.yield d (.ok v) ∈ pre) := by
  rw [run_trace] at h
  obtain ⟨snap, hs, hv⟩ := loopHead_exec_snapshot cfg p store fuel sched pre post t seen h
  refine ⟨snap, hs, fun d hd => ⟨?_, hv d hd⟩⟩
  exact loopHead_after_deps cfg p store fuel sched pre post _ t (Or.inr (Or.inr ⟨seen, rfl⟩)) h d hd

/-- per parameter object: the value `run()` of a planned, executed task reads for the task object `c`
    in its parameters is the value `tidOf c` was yielded with in this run, and a raise (`none`) if
    that dependency failed or died -/
theorem dep_read_value (cfg : Config) (p : Problem) (store : Store) (fuel : Nat) (sched : List Choice)
    (pre post : List Ev) (t : Tid) (seen : List (Option Val))
    (h : (run cfg p store fuel sched).trace = pre ++ Ev.exec t seen :: post)
    (ht : t ∈ (plan cfg p store fuel).pending) (hc : useCache cfg p store t = false) :
    ∃ rd : Iid → Option Val, seen = (p.children (repr0 (plan cfg p store fuel) t)).map rd ∧
      ∀ c ∈ p.children (repr0 (plan cfg p store fuel) t),
        (∃ o, Ev.yield (p.tidOf c) o ∈ pre) ∧
        ∀ v, (rd c = some v ↔ Ev.yield (p.tidOf c) (.ok v) ∈ pre) := by
  obtain ⟨snap, hs, hv⟩ := dep_result_visible cfg p store fuel sched pre post t seen h
  refine ⟨fun c => lookup (p.tidOf c) snap, hs, ?_⟩
  intro c hcm
  have hinst : repr0 (plan cfg p store fuel) t ∈ (plan cfg p store fuel).instances t := by
    have hne := plan_pending_instances cfg p store fuel t ht
    simp only [repr0]
    cases hl : (plan cfg p store fuel).instances t with
    | nil => exact absurd hl hne
    | cons a b => simp
  exact hv _ (plan_ddeps_complete cfg p store fuel t _ hinst hc c hcm)

/-- non-vacuity: in a concrete run task 3 (dependencies 1 and 2) is started after both were yielded,
    and its `run()` reads exactly their values -/
example :
    let tr := (run invExCfg invExP [] 4 (List.replicate 5 chooseAll)).trace
    tr = tr.take 18 ++ Ev.start 3 :: tr.drop 19 ∧
    tr = tr.take 20 ++ Ev.exec 3 [some 1000, some 2000] :: tr.drop 21 ∧
    (plan invExCfg invExP [] 4).ddeps 3 = [1, 2] ∧
    Ev.yield 1 (.ok 1000) ∈ tr.take 18 ∧ Ev.yield 2 (.ok 2000) ∈ tr.take 18 := by decide +kernel

/-- non-vacuity with a failing dependency: 1 raises, 3 still runs after both dependencies were
    yielded and reads a raise for 1 -/
example :
    let pr : Problem := { invExP with fails := fun t => t == 1 }
    let tr := (run { invExCfg with backend := .spawn } pr [] 4 (List.replicate 5 chooseAll)).trace
    Ev.yield 1 .exc ∈ tr ∧ Ev.exec 3 [none, some 2000] ∈ tr := by decide +kernel

/-! At every instant of every interrupted run (statement granularity, model M10): `Model/Intr.lean` re-expresses the coordinator loop as a stream of primitives, one per Python statement
that changes modelled state (`prims_refine_iteration`: executing all primitives of an iteration IS the
iteration of `Model/Run.lean`). `mainAt … k` is the state after the first `k` primitives of the main
loop's stream — in the middle of a submit phase, inside `_start_processes`, in the middle of
`complete_task` — for EVERY `k`; `handlerAt … k ds m` the state after `m` further primitives of the
`KeyboardInterrupt` handler (`cancel`, drain along `ds`) entered at instant `k`; `secondAt … k ds m m2`
after `m2` primitives of the second handler (`cancel`, `stop`, one last processing round) entered at
instant `m` of the first. (Same definitions as in `Props/C04.lean`.) The invariant `DI` of
`Proofs/IntrDeps.lean` holds in all of them, for every problem, configuration, cache pre-state, fuel,
schedule and drain schedule; no hypothesis. -/

/-- state after the first `k` primitives of the main loop's stream (`k` beyond its end: the end) -/
abbrev mainAt (cfg : Config) (p : Problem) (store : Store) (fuel : Nat) (sched : List Choice) (k : Nat) : IS :=
  stateAt cfg p store fuel sched k

/-- state after `m` primitives of the first interrupt handler entered at instant `k` -/
abbrev handlerAt (cfg : Config) (p : Problem) (store : Store) (fuel : Nat) (sched : List Choice) (k : Nat)
    (ds : List Choice) (m : Nat) : IS :=
  runPrims cfg p ((handlerPrims cfg p (reqTids p) ds (mainAt cfg p store fuel sched k)).take m)
    (mainAt cfg p store fuel sched k)

/-- state after `m2` primitives of the second handler entered at instant `m` of the first -/
abbrev secondAt (cfg : Config) (p : Problem) (store : Store) (fuel : Nat) (sched : List Choice) (k : Nat)
    (ds : List Choice) (m m2 : Nat) : IS :=
  runPrims cfg p ((secondPrims cfg p (reqTids p) (handlerAt cfg p store fuel sched k ds m)).take m2)
    (handlerAt cfg p store fuel sched k ds m)

/-- the states of `interruptedRun` (at the interrupt, and final) are among these -/
theorem interruptedRun_states (cfg : Config) (p : Problem) (store : Store) (fuel : Nat)
    (sched ds : List Choice) (k : Nat) (k2 : Option Nat) :
    (∃ k', (interruptedRun cfg p store fuel sched k ds k2).atIntr = mainAt cfg p store fuel sched k') ∧
    ((∃ k', (interruptedRun cfg p store fuel sched k ds k2).final = mainAt cfg p store fuel sched k') ∨
     (∃ m, (interruptedRun cfg p store fuel sched k ds k2).final = handlerAt cfg p store fuel sched k ds m) ∨
     (∃ m m2, (interruptedRun cfg p store fuel sched k ds k2).final = secondAt cfg p store fuel sched k ds m m2)) :=
  interruptedRun_cases store fuel sched ds k k2

/-- C02 AT EVERY INSTANT of the main loop: in the trace of the state after ANY number `k` of
    primitives (mid-submit-phase, inside `_start_processes`, mid-`complete_task` included), every
    `submit t`, `start t` and `exec t` is preceded by a `yield d` of every recorded direct dependency -/
theorem start_after_deps_every_instant (cfg : Config) (p : Problem) (store : Store) (fuel : Nat)
    (sched : List Choice) (k : Nat) (pre post : List Ev) (e : Ev) (t : Tid)
    (he : (∃ uc, e = Ev.submit t uc) ∨ e = Ev.start t ∨ (∃ seen, e = Ev.exec t seen))
    (h : (mainAt cfg p store fuel sched k).rs.trace = pre ++ e :: post) :
    ∀ d ∈ (plan cfg p store fuel).ddeps t, ∃ o, Ev.yield d o ∈ pre :=
  (stateAt_DI store fuel sched k).after_deps pre post e t he h

/-- … and at every instant of the interrupt handler (cancel + drain) entered at any instant `k` -/
theorem start_after_deps_every_instant_handler (cfg : Config) (p : Problem) (store : Store) (fuel : Nat)
    (sched : List Choice) (k : Nat) (ds : List Choice) (m : Nat) (pre post : List Ev) (e : Ev) (t : Tid)
    (he : (∃ uc, e = Ev.submit t uc) ∨ e = Ev.start t ∨ (∃ seen, e = Ev.exec t seen))
    (h : (handlerAt cfg p store fuel sched k ds m).rs.trace = pre ++ e :: post) :
    ∀ d ∈ (plan cfg p store fuel).ddeps t, ∃ o, Ev.yield d o ∈ pre :=
  (handlerStateAt_DI store fuel sched k ds m).after_deps pre post e t he h

/-- … and at every instant of the second handler (double interrupt at any `k`, `m`): cancel, stop and
    the final processing round -/
theorem start_after_deps_every_instant_second (cfg : Config) (p : Problem) (store : Store) (fuel : Nat)
    (sched : List Choice) (k : Nat) (ds : List Choice) (m m2 : Nat) (pre post : List Ev) (e : Ev) (t : Tid)
    (he : (∃ uc, e = Ev.submit t uc) ∨ e = Ev.start t ∨ (∃ seen, e = Ev.exec t seen))
    (h : (secondAt cfg p store fuel sched k ds m m2).rs.trace = pre ++ e :: post) :
    ∀ d ∈ (plan cfg p store fuel).ddeps t, ∃ o, Ev.yield d o ∈ pre :=
  (secondStateAt_DI store fuel sched k ds m m2).after_deps pre post e t he h

/-- the same for `interruptedRun` itself: the state at the interrupt and the final state, for every
    interrupt instant `k`, drain schedule `ds` and optional second interrupt instant `k2` -/
theorem start_after_deps_interrupted (cfg : Config) (p : Problem) (store : Store) (fuel : Nat)
    (sched ds : List Choice) (k : Nat) (k2 : Option Nat) (pre post : List Ev) (e : Ev) (t : Tid)
    (he : (∃ uc, e = Ev.submit t uc) ∨ e = Ev.start t ∨ (∃ seen, e = Ev.exec t seen))
    (h : (interruptedRun cfg p store fuel sched k ds k2).final.rs.trace = pre ++ e :: post ∨
         (interruptedRun cfg p store fuel sched k ds k2).atIntr.rs.trace = pre ++ e :: post) :
    ∀ d ∈ (plan cfg p store fuel).ddeps t, ∃ o, Ev.yield d o ∈ pre := by
  have hi := interruptedRun_instant (cfg := cfg) (p := p) store fuel sched ds k k2
  rcases h with h | h
  · exact (instant_DI hi.2).after_deps pre post e t he h
  · exact (instant_DI hi.1).after_deps pre post e t he h

/-- the mechanism, at every instant of all three streams: a recorded dependency `d` of `x` that is no
    longer in `task_to_pending_dependencies[x]` has been yielded — also in the middle of
    `complete_task`, and whatever the handlers did -/
theorem pending_deps_shrink_only_by_yield (cfg : Config) (p : Problem) (store : Store) (fuel : Nat)
    (sched : List Choice) (k : Nat) (ds : List Choice) (m m2 : Nat) (x d : Tid)
    (hd : d ∈ (plan cfg p store fuel).ddeps x) :
    (d ∈ (mainAt cfg p store fuel sched k).rs.ts.pendDeps x ∨
      ∃ o, Ev.yield d o ∈ (mainAt cfg p store fuel sched k).rs.trace) ∧
    (d ∈ (handlerAt cfg p store fuel sched k ds m).rs.ts.pendDeps x ∨
      ∃ o, Ev.yield d o ∈ (handlerAt cfg p store fuel sched k ds m).rs.trace) ∧
    (d ∈ (secondAt cfg p store fuel sched k ds m m2).rs.ts.pendDeps x ∨
      ∃ o, Ev.yield d o ∈ (secondAt cfg p store fuel sched k ds m m2).rs.trace) := by
  simp only [← mem_yieldedOf]
  exact ⟨(stateAt_DI store fuel sched k).pdY x d hd, (handlerStateAt_DI store fuel sched k ds m).pdY x d hd,
    (secondStateAt_DI store fuel sched k ds m m2).pdY x d hd⟩

/-! non-vacuity at mid-iteration instants and in interrupted runs (`exP`: task 1 needs task 0; `exCfg`:
    spawn, 4 workers). The main stream (29 primitives): 0 startTask 0, 1 enqueue 0, 2 procStart 0,
    3 regRunning 0, 4 unregPending 0, 5 regFuture 0, 6 consumeResults, 7 popFuture 0, 8 storeResult 0,
    9 markInstances 0, 10 removeActive 0, 11 unblockOne 0 1, 12 removeDone, 13 startTask 1,
    14 enqueue 1, 15 procStart 1, 16 regRunning 1, 17 unregPending 1, 18 regFuture 1, 19 consumeResults … -/
def exAll : List Choice := [⟨fun _ => true⟩, ⟨fun _ => true⟩, ⟨fun _ => true⟩]

/-- k = 16, strictly between two loop heads (inside `_start_processes`: `process.start()` of task 1
    done, the running map not yet written): the trace holds `start 1`, after `yield 0` -/
example : (mainOf exCfg exP [] 3 exAll).length = 29 ∧
    (mainAt exCfg exP [] 3 exAll 16).rs.trace =
      [.submit 0 false, .start 0, .waitEnter [] [0], .exec 0 [], .yield 0 (.ok 0), .remove [] [0],
       .submit 1 false, .start 1] ∧
    (mainAt exCfg exP [] 3 exAll 16).alive = [1] ∧ (mainAt exCfg exP [] 3 exAll 16).rs.running = [] ∧
    (plan exCfg exP [] 3).ddeps 1 = [0] := by decide +kernel

/-- k = 10, in the middle of `complete_task(0)` (`removeActive 0` done, `unblockOne 0 1` not yet), then
    the handler runs to its end: task 1 is still blocked and is never submitted -/
example : (mainAt exCfg exP [] 3 exAll 10).rs.ts.pendDeps 1 = [0] ∧
    (interruptedRun exCfg exP [] 3 exAll 10 exAll none).outcome = .interrupted ∧
    (interruptedRun exCfg exP [] 3 exAll 10 exAll none).final.rs.trace =
      [.submit 0 false, .start 0, .waitEnter [] [0], .exec 0 [], .yield 0 (.ok 0)] := by decide +kernel

/-- single interrupt at k = 19 (task 1 submitted and started): the handler's drain executes task 1
    AFTER the interrupt — the trace at the interrupt has 8 events, `exec 1` is the 10th of the final
    trace — and `run()` of 1 comes after `yield 0` -/
example :
    (interruptedRun exCfg exP [] 3 exAll 19 exAll none).hit = true ∧
    (interruptedRun exCfg exP [] 3 exAll 19 exAll none).outcome = .interrupted ∧
    (interruptedRun exCfg exP [] 3 exAll 19 exAll none).atIntr.rs.trace.length = 8 ∧
    (interruptedRun exCfg exP [] 3 exAll 19 exAll none).final.rs.trace =
      [.submit 0 false, .start 0, .waitEnter [] [0], .exec 0 [], .yield 0 (.ok 0), .remove [] [0],
       .submit 1 false, .start 1, .waitEnter [] [1], .exec 1 [some 0], .yield 1 (.ok 1), .remove [0, 1] []] := by
  decide +kernel

/-- double interrupt (k = 19, second one before the first `cancel` step): `stop()` terminates the
    worker of 1, the last processing round starts nothing; `start 1` is on record, after `yield 0` -/
example :
    (interruptedRun exCfg exP [] 3 exAll 19 exAll (some 0)).outcome = .interrupted ∧
    (interruptedRun exCfg exP [] 3 exAll 19 exAll (some 0)).final.terminated = [1] ∧
    (interruptedRun exCfg exP [] 3 exAll 19 exAll (some 0)).final.rs.trace =
      [.submit 0 false, .start 0, .waitEnter [] [0], .exec 0 [], .yield 0 (.ok 0), .remove [] [0],
       .submit 1 false, .start 1, .waitEnter [] []] := by decide +kernel

/-- the theorem applied to that run: the hypotheses are satisfiable and the conclusion is about a real
    `start` event -/
example : ∃ o, Ev.yield 0 o ∈ [Ev.submit 0 false, .start 0, .waitEnter [] [0], .exec 0 [], .yield 0 (.ok 0),
    .remove [] [0], .submit 1 false] :=
  start_after_deps_interrupted exCfg exP [] 3 exAll exAll 19 (some 0) _ [.waitEnter [] []] (.start 1) 1
    (Or.inr (Or.inl rfl)) (Or.inl (by decide +kernel)) 0 (by decide +kernel)

end Lt.Props.C02
