import LabtechModel.Proofs.Log
/-!
# C19 — Messages emitted by a task reach the caller's log exactly once

Statements over `Model/Log.lean`; no bound on the number of workers, emissions, operations or rounds.

* `proxy_conserves` — at any point of any write/flush sequence on a `LoggerFileProxy`: (what was handed
  to `logger_func`, concatenated) ++ (what is still buffered) = the non-blank writes so far, in order;
* `proxy_exactly_once` — for every write/flush sequence followed by a final flush, the concatenation of
  what was handed to `logger_func` is every non-blank write, once, in order, and the buffer is empty;
* `flush_idempotent` — a flush directly after a flush hands over nothing;
* `proxy_no_empty_message` — `logger_func` is never called with nothing to say;
* `worker_exactly_once` — for every emission pattern of `run()` (logger calls, stdout / stderr writes,
  explicit flushes anywhere): the records the worker has put on the log queue when it hands over its
  result carry every logger message, every non-blank stdout write and every non-blank stderr write once,
  in order (this uses the `finally` flush of `_subprocess_func`);
* `conservation` — in every state the coordinator loop reaches, for every worker: delivered ++ still on the
  log queue ++ not yet put = its records (FIFO, each `get` handles one record once);
* `no_duplicates` — so what has been delivered of a worker is always a prefix of what it emits;
* `delivered_before_return` — for every number of workers, every record list per worker, every schedule
  (which worker puts how many records / finishes before a `wait`, inside its `executor.wait`, or between
  the result drain and the second log drain, in every round): when the loop exits, i.e. after the round
  that consumed the last result, every worker's records have all been delivered, in order;
* `exactly_once` — … each record exactly as often as the worker put it;
* `task_output_delivered` — the end-to-end form: at loop exit the caller's log holds, for every task, every
  logger message and every non-blank stdout / stderr write of its `run()`, once, in order.
* `consumed_delivered`, `delivered_before_raise`, `delivered_before_return_any`, `no_duplicates_any_exit`,
  `runLoop_continue` — the loop with task outcomes (`runLoop`): `wait` yields after its second drain and, with
  `continue_on_failure=False`, the coordinator raises `LabError` at the first failed outcome, abandoning the
  generator.  Whichever way the loop ends, every worker whose result `executor.wait` has taken — in particular
  the failing one and everything collected in the same polling round — has had all its records delivered
  exactly once, in order; with `continue_on_failure=True` `runLoop` is `loop`.
* `died_worker_records`, `died_worker_prefix_delivered` — a worker whose process dies hard after a prefix of
  its `run()` has put every logger record of that prefix on the queue (and of its captured output exactly what
  explicit flushes had handed over), and the parent has delivered them once it has noticed the death.
An `example` shows that the drain *after* `executor.wait` is what `delivered_before_return` rests on: the
same loop without it loses the records of the task that finishes last; another that the drain must come
*before the first yield*: with the drain at the tail of the generator a raise loses the failing task's records.
-/
namespace Lt.Props.C19
open Lt.Log

theorem proxy_conserves (ops : List POp) :
    (prun [] ops).2.flatten ++ (prun [] ops).1 = nonBlank (writes ops) := by
  simpa using prun_conserve ops []

theorem proxy_exactly_once (ops : List POp) :
    (prun [] (ops ++ [.flush])).2.flatten = nonBlank (writes ops) ∧ (prun [] (ops ++ [.flush])).1 = [] := by
  have h := prun_conserve (ops ++ [.flush]) []
  have hb : (prun [] (ops ++ [.flush])).1 = [] := by
    rw [prun_append]; simp [prun, pflush_bufs]
  have hw : writes (ops ++ [.flush]) = writes ops := by simp [writes_append, writes]
  rw [hb, hw] at h
  exact ⟨by simpa using h, hb⟩

theorem flush_idempotent (b : List String) :
    (pflush (pflush b).1).2 = [] ∧ (prun b [.flush, .flush]).2 = (pflush b).2 := by
  have h : (pflush (pflush b).1).2 = [] := by rw [pflush_bufs]; rfl
  exact ⟨h, by simp [prun, h]⟩

theorem proxy_no_empty_message (ops : List POp) : ∀ m ∈ (prun [] ops).2, m ≠ [] :=
  prun_nonempty ops []

theorem worker_exactly_once (ems : List Emit) :
    logsOf (workerRecords ems) = emLogs ems ∧
    outBufs (workerRecords ems) = nonBlank (emOuts ems) ∧
    errBufs (workerRecords ems) = nonBlank (emErrs ems) := by
  obtain ⟨h1, h2, h3⟩ := emitAll_conserve (ems ++ [.flushOut, .flushErr]) { out := [], err := [] }
  have hfin : (emitAll { out := [], err := [] } (ems ++ [.flushOut, .flushErr])).1 = { out := [], err := [] } := by
    rw [emitAll_append]; exact final_flush_empties _
  rw [hfin] at h2 h3
  simp only [emLogs_append, emOuts_append, emErrs_append, emLogs, emOuts, emErrs, List.append_nil,
    List.nil_append] at h1 h2 h3
  exact ⟨h1, h2, h3⟩

theorem conservation (n : Nat) (recs : Nat → List Rec) (sched : List Round) (w : Nat) :
    let s := loop (init n recs) sched
    proj w s.delivered ++ proj w s.logq ++ s.todo w = recs w :=
  ((inv_init n recs).loop rfl sched).1.split w

theorem no_duplicates (n : Nat) (recs : Nat → List Rec) (sched : List Round) (w : Nat) :
    ∃ rest, proj w (loop (init n recs) sched).delivered ++ rest = recs w :=
  ⟨_, by rw [← List.append_assoc]; exact conservation n recs sched w⟩

theorem delivered_before_return (n : Nat) (recs : Nat → List Rec) (sched : List Round)
    (hexit : allConsumed (loop (init n recs) sched) = true) (w : Nat) (hw : w < n) :
    proj w (loop (init n recs) sched).delivered = recs w := by
  obtain ⟨hinv, hq⟩ := (inv_init n recs).loop rfl sched
  exact hinv.delivered hq w (mem_consumed_of_all _ hexit w (by rw [hinv.hn]; exact hw))

theorem exactly_once (n : Nat) (recs : Nat → List Rec) (sched : List Round)
    (hexit : allConsumed (loop (init n recs) sched) = true) (w : Nat) (hw : w < n) (r : Rec) :
    (loop (init n recs) sched).delivered.count (w, r) = (recs w).count r := by
  rw [← count_proj, delivered_before_return n recs sched hexit w hw]

theorem task_output_delivered (n : Nat) (ems : Nat → List Emit) (sched : List Round)
    (hexit : allConsumed (loop (init n (fun w => workerRecords (ems w))) sched) = true) (w : Nat) (hw : w < n) :
    let d := proj w (loop (init n (fun w => workerRecords (ems w))) sched).delivered
    logsOf d = emLogs (ems w) ∧ outBufs d = nonBlank (emOuts (ems w)) ∧ errBufs d = nonBlank (emErrs (ems w)) := by
  simp only
  rw [delivered_before_return n _ sched hexit w hw]
  exact worker_exactly_once (ems w)

/-- at whatever point the coordinator loop stops or stands between two `wait`s — the schedule ran out, it
returned, or it raised — every worker whose result `executor.wait` has taken has had all of its records
delivered, in order: the drain after `executor.wait` comes before the first yield -/
theorem consumed_delivered (cof : Bool) (fails : Nat → Bool) (n : Nat) (recs : Nat → List Rec)
    (sched : List Round) (w : Nat)
    (hw : w ∈ (runLoop cof fails (init n recs) sched).1.consumed) :
    proj w (runLoop cof fails (init n recs) sched).1.delivered = recs w := by
  obtain ⟨hinv, hq⟩ := (inv_init n recs).runLoop rfl cof fails sched
  exact hinv.delivered hq w hw

/-- exit by `LabError` (continue_on_failure=False): the error is for a failed worker whose outcome was taken
in that round, and everything that worker and every other worker consumed so far — in particular all
workers collected in the same polling round — put on the log queue has been delivered exactly once -/
theorem delivered_before_raise (cof : Bool) (fails : Nat → Bool) (n : Nat) (recs : Nat → List Rec)
    (sched : List Round) (f : Nat)
    (hraise : (runLoop cof fails (init n recs) sched).2 = .raised f) :
    cof = false ∧ fails f = true ∧
    proj f (runLoop cof fails (init n recs) sched).1.delivered = recs f ∧
    ∀ w ∈ (runLoop cof fails (init n recs) sched).1.consumed, ∀ r : Rec,
      (runLoop cof fails (init n recs) sched).1.delivered.count (w, r) = (recs w).count r := by
  obtain ⟨h1, h2, h3⟩ := (runLoop_exit cof fails sched _).2 f hraise
  refine ⟨h1, h2, consumed_delivered cof fails n recs sched f h3, ?_⟩
  intro w hw r
  rw [← count_proj, consumed_delivered cof fails n recs sched w hw]

/-- exit by return, with failures anywhere and either `continue_on_failure` setting -/
theorem delivered_before_return_any (cof : Bool) (fails : Nat → Bool) (n : Nat) (recs : Nat → List Rec)
    (sched : List Round) (hret : (runLoop cof fails (init n recs) sched).2 = .returned) (w : Nat) (hw : w < n) :
    proj w (runLoop cof fails (init n recs) sched).1.delivered = recs w := by
  have hall := (runLoop_exit cof fails sched _).1 hret
  have hn := ((inv_init n recs).runLoop rfl cof fails sched).1.hn
  exact consumed_delivered cof fails n recs sched w (mem_consumed_of_all _ hall w (by rw [hn]; exact hw))

/-- never more than emitted, never out of order, whichever way the loop ends -/
theorem no_duplicates_any_exit (cof : Bool) (fails : Nat → Bool) (n : Nat) (recs : Nat → List Rec)
    (sched : List Round) (w : Nat) :
    ∃ rest, proj w (runLoop cof fails (init n recs) sched).1.delivered ++ rest = recs w :=
  ⟨_, by rw [← List.append_assoc]
         exact ((inv_init n recs).runLoop rfl cof fails sched).1.split w⟩

/-- `continue_on_failure=True` (the default): the loop with outcomes is the plain loop above -/
theorem runLoop_continue (fails : Nat → Bool) (s : St) (sched : List Round) :
    (runLoop true fails s sched).1 = loop s sched := runLoop_cof fails sched s

/-- what a worker that dies after `pre` has put on the log queue: every logger record of `pre`, in order
(each is put synchronously when emitted), and of the captured output exactly a prefix — what explicit flushes
had handed over; nothing twice -/
theorem died_worker_records (pre : List Emit) :
    logsOf (diedRecords pre) = emLogs pre ∧
    (∃ rest, outBufs (diedRecords pre) ++ rest = nonBlank (emOuts pre)) ∧
    (∃ rest, errBufs (diedRecords pre) ++ rest = nonBlank (emErrs pre)) := by
  obtain ⟨h1, h2, h3⟩ := emitAll_conserve pre { out := [], err := [] }
  simp only [List.nil_append] at h2 h3
  exact ⟨h1, ⟨_, h2⟩, ⟨_, h3⟩⟩

/-- … and the parent delivers them: for every mix of workers that finish (`workerRecords`) and workers that
die hard after a prefix `ems w` of their `run()` (`diedRecords`), every schedule and either exit, once the
parent has noticed the death (the future is done), every logger record the dead worker emitted has been
delivered exactly once, in order -/
theorem died_worker_prefix_delivered (cof : Bool) (fails : Nat → Bool) (n : Nat) (ems : Nat → List Emit)
    (died : Nat → Bool) (sched : List Round) (w : Nat) (hd : died w = true)
    (hw : w ∈ (runLoop cof fails (init n (fun v => if died v then diedRecords (ems v) else workerRecords (ems v)))
            sched).1.consumed) :
    logsOf (proj w (runLoop cof fails (init n (fun v => if died v then diedRecords (ems v) else workerRecords (ems v)))
            sched).1.delivered) = emLogs (ems w) := by
  rw [consumed_delivered cof fails n _ sched w hw]
  simp only [hd, if_true]
  exact (died_worker_records (ems w)).1

/-- `print("a")`, flush, a blank write, `print("b")`, final flush, a second flush -/
example : (prun [] [.write "a", .write "\n", .flush, .write " \t", .write "b", .write "\n", .flush, .flush]).2
    = [["a"], ["b"]] := by decide +kernel

example : workerRecords [.log "m1", .out "x", .out "\n", .flushOut, .err "e", .out "y", .log "m2"]
    = [.logged "m1", .stdout ["x"], .logged "m2", .stdout ["y"], .stderr ["e"]] := by decide +kernel

def demoRecs : Nat → List Rec := fun w => workerRecords [.log (if w = 0 then "a" else "b"), .out "p"]

/-- two workers; worker 1 finishes last, inside `executor.wait` of the second round, after having put one
record early: the loop exits after that round (the hypothesis of `delivered_before_return` is satisfiable)
with everything delivered -/
def demoSched : List Round :=
  [{ a := [.advance 1 1], b := [.finish 0], c := [] }, { a := [], b := [.finish 1], c := [] }]

example : allConsumed (loop (init 2 demoRecs) demoSched) = true := by decide +kernel
example : (loop (init 2 demoRecs) demoSched).delivered
    = [(1, .logged "b"), (0, .logged "a"), (0, .stdout ["p"]), (1, .stdout ["p"])] := by decide +kernel
example : allConsumed (loop (init 2 demoRecs) (demoSched.take 1)) = false := by decide +kernel

/-- the same `wait` without the drain after `executor.wait` (the code before the D5c repair) -/
def waitRoundNoSecondDrain (s : St) (r : Round) : St :=
  consumeResults ((r.b.foldl envStep (consumeLog (r.a.foldl envStep s))))

def loopNoSecondDrain : St → List Round → St
  | s, [] => s
  | s, r :: rs => if allConsumed s then s else loopNoSecondDrain (waitRoundNoSecondDrain s r) rs

/-- … exits with the last-finishing worker's records still on the queue -/
example : allConsumed (loopNoSecondDrain (init 2 demoRecs) demoSched) = true
    ∧ proj 1 (loopNoSecondDrain (init 2 demoRecs) demoSched).delivered = [.logged "b"]
    ∧ demoRecs 1 = [.logged "b", .stdout ["p"]] := by decide +kernel

/-- worker 1 fails; it and worker 0 finish inside the same `executor.wait`; `continue_on_failure=False`:
the loop raises for worker 1 (hypothesis of `delivered_before_raise` is satisfiable) with both workers'
records delivered -/
def failSched : List Round := [{ a := [], b := [.finish 1, .finish 0], c := [] }]

example : (runLoop false (fun w => w == 1) (init 2 demoRecs) failSched).2 = .raised 1 := by decide +kernel
example : (runLoop false (fun w => w == 1) (init 2 demoRecs) failSched).1.delivered
    = [(1, .logged "b"), (1, .stdout ["p"]), (0, .logged "a"), (0, .stdout ["p"])] := by decide +kernel
example : (runLoop true (fun w => w == 1) (init 2 demoRecs) failSched).2 = .returned := by decide +kernel

/-- the same `wait` with the second drain at the tail of the generator (after the yields): a raise at a
yield abandons the generator before that drain — the state at the raise is the one without it … -/
def runLoopTailDrain (fails : Nat → Bool) : St → List Round → St × Exit
  | s, [] => (s, .running)
  | s, r :: rs =>
    if allConsumed s then (s, .returned)
    else
      match (yieldOrder s.n s.consumed (waitRoundNoSecondDrain s r).consumed).find? fails with
      | some w => (waitRoundNoSecondDrain s r, .raised w)
      | none => runLoopTailDrain fails (consumeLog (r.c.foldl envStep (waitRoundNoSecondDrain s r))) rs

/-- … and the failing task's own records (and its round-mates') are lost -/
example : (runLoopTailDrain (fun w => w == 1) (init 2 demoRecs) failSched).2 = .raised 1
    ∧ (runLoopTailDrain (fun w => w == 1) (init 2 demoRecs) failSched).1.delivered = [] := by decide +kernel

/-- dies after two logger records, a flushed print and an unflushed one: the unflushed print is lost, the rest is there -/
example : diedRecords [.log "a", .out "x", .flushOut, .log "b", .out "y"]
    = [.logged "a", .stdout ["x"], .logged "b"] := by decide +kernel

example : (runLoop true (fun _ => false)
      (init 1 (fun _ => diedRecords [.log "a", .out "x", .flushOut, .log "b", .out "y"]))
      [{ a := [], b := [.finish 0], c := [] }]).1.delivered
    = [(0, .logged "a"), (0, .stdout ["x"]), (0, .logged "b")] := by decide +kernel

end Lt.Props.C19
