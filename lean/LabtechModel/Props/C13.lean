import LabtechModel.Proofs.SaveExec
/-!
# C13 — Killing a task mid-save cannot poison the cache

**The property is false of the code's design** (no commit marker, no atomic rename: `is_cached` is
"the key directory exists", and the directory is created before anything is written). It is a
recorded known finding with two windows (F13a, F13b in `known_findings.json`). What is proved here is
the *exact characterisation* of the crash points that are safe, over the micro-step model of
`BaseCache.save` (`Model/Save.lean`), for every number of write calls `n+1`, `m+1`, every crash
point `k` (number of micro-steps executed before the kill) and both fates of the unflushed buffer:

* first save: safe **iff** the key directory was not yet created (`k ≤ 2`) or the result file is
  complete (`completeAt`: all writes performed and durable, or the file closed);
* overwrite of a good entry: safe **iff** `metadata.json` was not yet truncated (`k ≤ 3`) or the
  result file is complete; "safe" = not cached, or loads value and meta of the *same* save
  (old/old or new/new).

Full statement of C13 (NOT provable, refuted by `crash_poison_witness`):
  `∀ n m old new overwrite k durable, safeB (goodOf overwrite old new) (crash n m new (preOf overwrite old) k durable)`.
`crash_safe_partial` is that statement restricted by the hypothesis
`k ≤ untouchedUpTo overwrite ∨ completeAt n m durable ≤ k`.

All of it rests on `Lt.Save.crash_stage` (`Proofs/SaveExec.lean`): a crash finds the entry in one of six
stages (untouched, directory made, metadata torn / complete, result torn / complete), the three broken
ones strictly between micro-step 3 and `completeAt`; which stages are safe is a six-row table per mode.
-/
namespace Lt.Props.C13
open Lt.Save

/-- **exact characterisation** of the safe crash points, both modes -/
theorem crash_safe_iff (n m : Nat) (old new : Ver) (hne : old ≠ new) (overwrite : Bool) (k : Nat) (durable : Bool) :
    safeB (goodOf overwrite old new) (crash n m new (preOf overwrite old) k durable) = true
      ↔ (k ≤ untouchedUpTo overwrite ∨ completeAt n m durable ≤ k) := by
  obtain ⟨s, hk, e⟩ := crash_stage n m new (preOf overwrite old) k durable
  have r := Stage.reached_bounds hk
  rw [e]
  cases overwrite
  · exact (Stage.safe_first new s).trans (by rw [r.1, r.2.2]; rfl)
  · refine (Stage.safe_overwrite hne s).trans ?_
    rw [r.1, r.2.1, r.2.2]
    show _ ↔ k ≤ 3 ∨ _
    omega

/-- C13 restricted to the safe points (hypothesis spelled out: the crash strikes before the entry is
    touched, or after the result file is complete) -/
theorem crash_safe_partial (n m : Nat) (old new : Ver) (hne : old ≠ new) (overwrite : Bool) (k : Nat) (durable : Bool)
    (h : k ≤ untouchedUpTo overwrite ∨ completeAt n m durable ≤ k) :
    safeB (goodOf overwrite old new) (crash n m new (preOf overwrite old) k durable) = true :=
  (crash_safe_iff n m old new hne overwrite k durable).mpr h

/-- the two known windows are poisoned at *every* point inside them -/
theorem crash_window_poisoned (n m : Nat) (old new : Ver) (hne : old ≠ new) (overwrite : Bool) (k : Nat) (durable : Bool)
    (h1 : untouchedUpTo overwrite < k) (h2 : k < completeAt n m durable) :
    safeB (goodOf overwrite old new) (crash n m new (preOf overwrite old) k durable) = false := by
  have := crash_safe_iff n m old new hne overwrite k durable
  cases hs : safeB (goodOf overwrite old new) (crash n m new (preOf overwrite old) k durable)
  · rfl
  · rw [hs] at this; have := this.mp rfl; omega

/-- a first save never mis-loads: at every crash point a load fails or returns the saved value with
    its own meta (the poison of window F13a is always "cached but unloadable", never a wrong value) -/
theorem crash_first_save_never_wrong_value (n m : Nat) (new : Ver) (k : Nat) (durable : Bool) :
    load (crash n m new .absent k durable) = .fails ∨ load (crash n m new .absent k durable) = .ok new new := by
  obtain ⟨s, -, e⟩ := crash_stage n m new .absent k durable
  rw [e]; cases s <;> simp [Stage.entry, mkdirE, setMeta, setData, load]

/-- an overwrite never returns a foreign value: whatever loads after a crash is the value of the old
    or of the new save, with the meta of the old or of the new save (the mis-load of window F13b is
    exactly "old value under new meta") -/
theorem crash_overwrite_loads_old_or_new (n m : Nat) (old new : Ver) (k : Nat) (durable : Bool) (v mv : Ver)
    (h : load (crash n m new (.dir (.full old) (.full old)) k durable) = .ok v mv) :
    (v = old ∨ v = new) ∧ (mv = old ∨ mv = new) := by
  obtain ⟨s, -, e⟩ := crash_stage n m new (.dir (.full old) (.full old)) k durable
  rw [e] at h
  cases s <;> simp [Stage.entry, mkdirE, setMeta, setData, load] at h <;> simp [← h.1, ← h.2]

/-- **C13 is false**: a concrete poisoned state. First save, one write per file, killed right after
    the data file was opened (9 micro-steps done): reported cached, does not load. -/
theorem crash_poison_witness :
    isCached (crash 0 0 1 .absent 9 true) = true ∧ load (crash 0 0 1 .absent 9 true) = .fails ∧
    safeB [1] (crash 0 0 1 .absent 9 true) = false := by decide

/-- second window (F13b): overwrite, killed after the new `metadata.json` was closed and before the
    result file was truncated: the OLD value is loaded under the NEW meta -/
theorem crash_poison_witness_overwrite :
    load (crash 0 0 1 (preOf true 0) 7 true) = .ok 0 1 ∧
    safeB (goodOf true 0 1) (crash 0 0 1 (preOf true 0) 7 true) = false := by decide

/-- safe points exist on both sides of the window, in both modes, with lost and kept buffers -/
example : safeB (goodOf false 0 1) (crash 2 3 1 (preOf false 0) 2 false) = true ∧
    safeB (goodOf false 0 1) (crash 2 3 1 (preOf false 0) 15 true) = true ∧
    safeB (goodOf false 0 1) (crash 2 3 1 (preOf false 0) 15 false) = false ∧
    safeB (goodOf true 0 1) (crash 2 3 1 (preOf true 0) 3 true) = true ∧
    safeB (goodOf true 0 1) (crash 2 3 1 (preOf true 0) 4 true) = false ∧
    safeB (goodOf true 0 1) (crash 2 3 1 (preOf true 0) 16 false) = true := by decide +kernel

example : (0 : Ver) ≠ 1 ∧ (2 ≤ untouchedUpTo false ∨ completeAt 2 3 true ≤ 2) ∧
    untouchedUpTo true < 5 ∧ 5 < completeAt 2 3 false := by decide

end Lt.Props.C13
