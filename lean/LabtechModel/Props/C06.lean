import LabtechModel.Proofs.StoreRefine
import LabtechModel.Proofs.LinkExampleKeys
import LabtechModel.Proofs.LinkDumps
/-!
# C06 — A cache hit returns the result and metadata stored for that very task

Over `Model/Store.lean` (storage provider as a key → entry map, `BaseCache` of any cache class,
`run_or_load_task`). Map laws of the cache, for every disk, every task, every stored result:
`save_then_cached`, `save_then_load` (value *and* start/duration), `save_frame` (other keys and other
tasks untouched), `load_own_entry` (what a load returns sits in an entry that names this very task),
and the run-level consequences `cache_hit_returns_stored` / `second_run_loads_first_runs_result`.

Hypotheses, spelled out where used: `KeyInj U` — distinct tasks have distinct cache keys (that is
property C07; its recorded known finding F07 is exactly a violation of this hypothesis);
`Wf U d` — every entry on the disk was written by `BaseCache.save` (holds for the empty disk and is
preserved by every Lab operation: `Props/C08.lean`, `lab_refines_map`).

**Discharged (second half of this file): the hypothesis `KeyInj`.** `keyInj_from_c07`
(= `Lt.Link.keyInj_of_params`, `Proofs/LinkKeys.lean`) derives it from the params model: the universe's
type / hash numbers stand for the class strings / sha1 digests of real parameter trees (`Represents`;
`store_key_is_real_key`: equal structured keys ⇒ equal real `cache_key` strings), the trees are
well-formed (`WfTasks`: `wfValue` at every depth — F07's input class stays excluded, as in C07) and
pairwise distinct, and the two named assumptions of C07 hold on the tasks that occur: `ShaInjOn` (sha1
does not collide) and `DumpsInjOn` (`json.dumps` separates the documents). `load_own_entry_params`,
`cache_hit_returns_stored_params`, `second_run_loads_first_runs_result_params`, `save_frame_params` are
the theorems above with `KeyInj` replaced by these assumptions. That the *scheduled* second run (any
backend, any schedule) is the `labRun` used here is `Props.C08.labRun_agrees_with_scheduler`.
-/
namespace Lt.Props.C06
open Lt.Store

/-- after `save`, `is_cached` reports the task (caching type, real storage) -/
theorem save_then_cached (U : Universe) (d : Disk) (t : Tid) (r : Stored)
    (hc : cacheable U t = true) (hs : U.nullStorage = false) :
    labIsCached U (cSave U d t r) t = true := by
  have hp := persists_iff.mpr ⟨by simpa [cacheable] using hc, hs⟩
  simp [labIsCached, cIsCached_eq, cSave_eq, hp, lookup]

/-- after `save`, `load_result_with_meta` returns exactly the saved value, start and duration -/
theorem save_then_load (U : Universe) (d : Disk) (t : Tid) (r : Stored)
    (hc : cacheable U t = true) (hs : U.nullStorage = false) :
    cLoad U (cSave U d t r) t = some r := cLoad_save_same U d t r hc hs

/-- a save touches no other key directory … -/
theorem save_frame_keys (U : Universe) (d : Disk) (t : Tid) (r : Stored) (k : Key) (h : k ≠ keyOf U t) :
    lookup k (cSave U d t r) = lookup k d := lookup_save_other U d t r k h

/-- … hence no other task: its cached-ness and what it loads are unchanged -/
theorem save_frame (U : Universe) (hinj : KeyInj U) (d : Disk) (t t' : Tid) (r : Stored) (h : t' ≠ t) :
    cLoad U (cSave U d t r) t' = cLoad U d t' ∧ labIsCached U (cSave U d t r) t' = labIsCached U d t' := by
  have hk : keyOf U t' ≠ keyOf U t := fun e => h (hinj _ _ e)
  exact ⟨cLoad_congr U d _ t' (lookup_save_other U d t r _ hk),
         cIsCached_congr U d _ t' (lookup_save_other U d t r _ hk)⟩

/-- a load never returns a result that was stored for a different task: whatever
    `load_result_with_meta` returns for `t` is the content of an entry whose metadata names `t` -/
theorem load_own_entry (U : Universe) (hinj : KeyInj U) (d : Disk) (wf : Wf U d) (t : Tid) (s : Stored)
    (h : cLoad U d t = some s) :
    ∃ e, (keyOf U t, e) ∈ d ∧ e.task = t ∧ e.key = keyOf U t ∧ e.cls = kindOf U t ∧
      s = { val := e.data, start := e.start, dur := e.dur } := by
  obtain ⟨-, e, he, hcls, hs⟩ := cLoad_eq_some.mp h
  have hm := lookup_mem _ e d he
  exact ⟨e, hm, wf.task hinj he, wf.entryKey hm, hcls, hs⟩

/-- `run_or_load_task` on a cache hit: the stored value is handed out, `run()` is not called, and
    the meta that is set on the task objects is the stored start/duration -/
theorem cache_hit_returns_stored (U : Universe) (hinj : KeyInj U) (g : Nat) (fl : List Tid) (a : Acc) (wf : Wf U a.disk)
    (t : Tid) (s : Stored) (h : cLoad U a.disk t = some s) :
    stepC U false g fl a t = { a with vals := (t, some s.val) :: a.vals, loaded := (t, s) :: a.loaded } := by
  have : labIsCached U a.disk t = true := by rw [labIsCached_eq U a.disk t wf hinj, abs, h]; rfl
  simp [stepC, this, h]

/-- first run executes `t` and saves; any number of saves of *other* tasks later, a second
    (non-busting) `run_or_load_task` of `t` — same or new process, any backend: the disk is all that
    is shared — returns the first run's value without executing, with the first run's meta -/
theorem second_run_loads_first_runs_result (U : Universe) (hinj : KeyInj U) (d : Disk) (t : Tid) (r : Stored)
    (hc : cacheable U t = true) (hs : U.nullStorage = false)
    (others : List (Tid × Stored)) (hne : ∀ p ∈ others, p.1 ≠ t) (hlt : ∀ p ∈ others, p.1 < U.n)
    (wf : Wf U d) (ht : t < U.n) (g : Nat) (fl : List Tid) (a : Acc)
    (ha : a.disk = others.foldl (fun d p => cSave U d p.1 p.2) (cSave U d t r)) :
    (stepC U false g fl a t).vals = (t, some r.val) :: a.vals ∧
    (stepC U false g fl a t).execd = a.execd ∧
    (stepC U false g fl a t).loaded = (t, r) :: a.loaded := by
  -- every later save is of another task of the universe: the disk stays well-formed and `t` loads `r`
  have ⟨w, hl⟩ : Wf U a.disk ∧ cLoad U a.disk t = some r := ha ▸
    foldl_inv (P := fun d0 => Wf U d0 ∧ cLoad U d0 t = some r) others
      (fun d0 p hp ⟨w, h⟩ => ⟨wf_save U d0 p.1 p.2 w (hlt p hp),
        (save_frame U hinj d0 p.1 t p.2 fun e => hne p hp e.symm).1.trans h⟩)
      ⟨wf_save U d t r wf ht, save_then_load U d t r hc hs⟩
  rw [cache_hit_returns_stored U hinj g fl a w t r hl]
  exact ⟨rfl, rfl, rfl⟩

def exU : Universe :=
  { n := 3, ty := fun t => if t = 2 then 1 else 0, cacheOf := fun T => if T = 0 then .pickle else .other,
    deps := fun t => if t = 2 then [0, 1] else [], fails := fun _ => false, hash := fun t => t,
    value := fun t g vs => 1000 * t + g + vs.foldl (· + ·) 0, namePrefix := fun a b => a == b,
    nullStorage := false }

example : KeyInj exU := by
  intro t t' h
  simp [keyOf, exU] at h
  exact h.2.2

/-- run, then run again: the second run executes nothing and returns the stored values and meta -/
example :
    let a1 := labRun exU false 1 [] [2] []
    let a2 := labRun exU false 2 [] [2] a1.disk
    a1.execd = [2, 1, 0] ∧ a2.execd = [] ∧ returned [2] a2 = returned [2] a1 ∧
    a2.loaded = [(2, { val := 3003, start := 1, dur := 102 })] := by decide +kernel

/-- `KeyInj` of a universe that represents well-formed, pairwise distinct parameter trees -/
theorem keyInj_from_c07 (U : Universe) (sha1 : String → String) (task : Nat → Lt.Params.Task)
    (hrep : Lt.Link.Represents U sha1 task) (hwf : Lt.Link.WfTasks U.n task) (hdist : Lt.Link.Distinct U.n task)
    (hsha : Lt.Link.ShaInjOn sha1 U.n task) (hdumps : Lt.Link.DumpsInjOn U.n task) : KeyInj U :=
  Lt.Link.keyInj_of_params U sha1 task hrep hwf hdist hsha hdumps

/-- equal structured keys of the history model mean equal real `cache_key` strings -/
theorem store_key_is_real_key (U : Universe) (sha1 : String → String) (task : Nat → Lt.Params.Task)
    (hrep : Lt.Link.Represents U sha1 task) (hwf : Lt.Link.WfTasks U.n task) (fmt : Lt.Params.CacheFmt)
    (t t' : Nat) (ht : t < U.n) (ht' : t' < U.n) (h : keyOf U t = keyOf U t') :
    Lt.Params.cacheKey sha1 fmt (task t) = Lt.Params.cacheKey sha1 fmt (task t') :=
  Lt.Link.storeKey_eq_realKey_eq U sha1 task hrep hwf fmt t t' ht ht' h

theorem save_frame_params (U : Universe) (sha1 : String → String) (task : Nat → Lt.Params.Task)
    (hrep : Lt.Link.Represents U sha1 task) (hwf : Lt.Link.WfTasks U.n task) (hdist : Lt.Link.Distinct U.n task)
    (hsha : Lt.Link.ShaInjOn sha1 U.n task) (hdumps : Lt.Link.DumpsInjOn U.n task)
    (d : Disk) (t t' : Nat) (r : Stored) (h : t' ≠ t) :
    cLoad U (cSave U d t r) t' = cLoad U d t' ∧ labIsCached U (cSave U d t r) t' = labIsCached U d t' :=
  save_frame U (keyInj_from_c07 U sha1 task hrep hwf hdist hsha hdumps) d t t' r h

/-- `load_own_entry` with `KeyInj` replaced by the C07 assumptions -/
theorem load_own_entry_params (U : Universe) (sha1 : String → String) (task : Nat → Lt.Params.Task)
    (hrep : Lt.Link.Represents U sha1 task) (hwf : Lt.Link.WfTasks U.n task) (hdist : Lt.Link.Distinct U.n task)
    (hsha : Lt.Link.ShaInjOn sha1 U.n task) (hdumps : Lt.Link.DumpsInjOn U.n task)
    (d : Disk) (wf : Wf U d) (t : Nat) (s : Stored) (h : cLoad U d t = some s) :
    ∃ e, (keyOf U t, e) ∈ d ∧ e.task = t ∧ e.key = keyOf U t ∧ e.cls = kindOf U t ∧
      s = { val := e.data, start := e.start, dur := e.dur } :=
  load_own_entry U (keyInj_from_c07 U sha1 task hrep hwf hdist hsha hdumps) d wf t s h

/-- `cache_hit_returns_stored` with `KeyInj` replaced by the C07 assumptions -/
theorem cache_hit_returns_stored_params (U : Universe) (sha1 : String → String) (task : Nat → Lt.Params.Task)
    (hrep : Lt.Link.Represents U sha1 task) (hwf : Lt.Link.WfTasks U.n task) (hdist : Lt.Link.Distinct U.n task)
    (hsha : Lt.Link.ShaInjOn sha1 U.n task) (hdumps : Lt.Link.DumpsInjOn U.n task)
    (g : Nat) (fl : List Nat) (a : Acc) (wf : Wf U a.disk) (t : Nat) (s : Stored) (h : cLoad U a.disk t = some s) :
    stepC U false g fl a t = { a with vals := (t, some s.val) :: a.vals, loaded := (t, s) :: a.loaded } :=
  cache_hit_returns_stored U (keyInj_from_c07 U sha1 task hrep hwf hdist hsha hdumps) g fl a wf t s h

/-- `second_run_loads_first_runs_result` with `KeyInj` replaced by the C07 assumptions -/
theorem second_run_loads_first_runs_result_params (U : Universe) (sha1 : String → String)
    (task : Nat → Lt.Params.Task)
    (hrep : Lt.Link.Represents U sha1 task) (hwf : Lt.Link.WfTasks U.n task) (hdist : Lt.Link.Distinct U.n task)
    (hsha : Lt.Link.ShaInjOn sha1 U.n task) (hdumps : Lt.Link.DumpsInjOn U.n task)
    (d : Disk) (t : Nat) (r : Stored)
    (hc : cacheable U t = true) (hs : U.nullStorage = false)
    (others : List (Nat × Stored)) (hne : ∀ p ∈ others, p.1 ≠ t) (hlt : ∀ p ∈ others, p.1 < U.n)
    (wf : Wf U d) (ht : t < U.n) (g : Nat) (fl : List Nat) (a : Acc)
    (ha : a.disk = others.foldl (fun d p => cSave U d p.1 p.2) (cSave U d t r)) :
    (stepC U false g fl a t).vals = (t, some r.val) :: a.vals ∧
    (stepC U false g fl a t).execd = a.execd ∧
    (stepC U false g fl a t).loaded = (t, r) :: a.loaded :=
  second_run_loads_first_runs_result U (keyInj_from_c07 U sha1 task hrep hwf hdist hsha hdumps)
    d t r hc hs others hne hlt wf ht g fl a ha

/-- non-vacuity: the universe `Lt.Link.exPU` is built from three real parameter trees
    (`m.Leaf(x=1)`, `m.Raw(y="a")` with `cache=None`, `m.Box(a=Leaf, b=Raw)` depending on both) and
    satisfies every assumption; its `KeyInj` is a consequence, also through the real key string -/
example : Lt.Link.Represents Lt.Link.exPU Lt.Link.exSha Lt.Link.exTask ∧ Lt.Link.WfTasks 3 Lt.Link.exTask ∧
    Lt.Link.Distinct 3 Lt.Link.exTask ∧ Lt.Link.ShaInjOn Lt.Link.exSha 3 Lt.Link.exTask ∧
    Lt.Link.DumpsInjOn 3 Lt.Link.exTask ∧ (∀ x, (Lt.Link.exSha x).toList.length = 40) ∧ KeyInj Lt.Link.exPU :=
  ⟨Lt.Link.exPU_represents, Lt.Link.exTask_wf, Lt.Link.exTask_distinct, Lt.Link.exSha_injOn,
   Lt.Link.exTask_dumpsInj, Lt.Link.exSha_len,
   Lt.Link.keyInj_of_params_via_cacheKey Lt.Link.exPU Lt.Link.exSha Lt.Link.exSha_len Lt.Link.exTask
     Lt.Link.exPU_represents Lt.Link.exTask_wf Lt.Link.exTask_distinct Lt.Link.exSha_injOn Lt.Link.exTask_dumpsInj⟩

set_option maxRecDepth 100000 in
/-- on `exPU`: the second run loads what the first run stored; `Raw` (`cache=None`) is executed again -/
example :
    let a1 := labRun Lt.Link.exPU false 1 [] [2] []
    let a2 := labRun Lt.Link.exPU false 2 [] [2, 1] a1.disk
    a1.execd = [2, 1, 0] ∧ a2.execd = [1] ∧ a2.loaded = [(2, { val := 3003, start := 1, dur := 102 })] ∧
    returned [2] a2 = returned [2] a1 ∧
    (keyOf Lt.Link.exPU 0).cls = .pickle ∧ (keyOf Lt.Link.exPU 1).cls = .null ∧ (keyOf Lt.Link.exPU 2).cls = .other := by
  -- evaluated through the specification runs (`run_refines`): those compare task ids, where `labRun`
  -- compares keys, and a key of `exPU` holds a digest of the task's serialised parameter tree
  have h1 := run_refines Lt.Link.exPU Lt.Link.exPU_keyInj false 1 [] [2] [] (wf_nil _)
  have h2 := run_refines Lt.Link.exPU Lt.Link.exPU_keyInj false 2 [] [2, 1] _ h1.wf
  rw [h1.map] at h2
  simp only [returned, h1.execd, h1.vals, h2.execd, h2.vals, h2.loaded]
  decide +kernel

end Lt.Props.C06

/-! The `json.dumps` assumption proved:
`DumpsInjOn` is a theorem (`Lt.Link.dumpsInjOn_of_wfFloats`, from `Lt.Params.dumps_injective`,
`Proofs/DumpsInj.lean`) for every family of tasks whose float parameters carry float tokens
(`Lt.Link.WfFloatsOn`: the decidable `Task.wfFloats` for each task of the universe — a well-formedness
condition of the model's token-carrying `.float` leaves, satisfied by every token `float.__repr__`
prints).  SHA-1 collision-freeness (`ShaInjOn`) is the one named assumption that remains. -/
namespace Lt.Props.C06
open Lt.Store

/-- `keyInj_from_c07` without the `json.dumps` assumption -/
theorem keyInj_from_c07_dumps_proved (U : Universe) (sha1 : String → String) (task : Nat → Lt.Params.Task)
    (hrep : Lt.Link.Represents U sha1 task) (hwf : Lt.Link.WfTasks U.n task) (hdist : Lt.Link.Distinct U.n task)
    (hsha : Lt.Link.ShaInjOn sha1 U.n task) (hfl : Lt.Link.WfFloatsOn U.n task) : KeyInj U :=
  keyInj_from_c07 U sha1 task hrep hwf hdist hsha (Lt.Link.dumpsInjOn_of_wfFloats U.n task hfl)

/-- `cache_hit_returns_stored_params` without the `json.dumps` assumption -/
theorem cache_hit_returns_stored_params_dumps_proved (U : Universe) (sha1 : String → String)
    (task : Nat → Lt.Params.Task)
    (hrep : Lt.Link.Represents U sha1 task) (hwf : Lt.Link.WfTasks U.n task) (hdist : Lt.Link.Distinct U.n task)
    (hsha : Lt.Link.ShaInjOn sha1 U.n task) (hfl : Lt.Link.WfFloatsOn U.n task)
    (g : Nat) (fl : List Nat) (a : Acc) (wf : Wf U a.disk) (t : Nat) (s : Stored) (h : cLoad U a.disk t = some s) :
    stepC U false g fl a t = { a with vals := (t, some s.val) :: a.vals, loaded := (t, s) :: a.loaded } :=
  cache_hit_returns_stored_params U sha1 task hrep hwf hdist hsha
    (Lt.Link.dumpsInjOn_of_wfFloats U.n task hfl) g fl a wf t s h

/-- `second_run_loads_first_runs_result_params` without the `json.dumps` assumption -/
theorem second_run_loads_first_runs_result_params_dumps_proved (U : Universe) (sha1 : String → String)
    (task : Nat → Lt.Params.Task)
    (hrep : Lt.Link.Represents U sha1 task) (hwf : Lt.Link.WfTasks U.n task) (hdist : Lt.Link.Distinct U.n task)
    (hsha : Lt.Link.ShaInjOn sha1 U.n task) (hfl : Lt.Link.WfFloatsOn U.n task)
    (d : Disk) (t : Nat) (r : Stored)
    (hc : cacheable U t = true) (hs : U.nullStorage = false)
    (others : List (Nat × Stored)) (hne : ∀ p ∈ others, p.1 ≠ t) (hlt : ∀ p ∈ others, p.1 < U.n)
    (wf : Wf U d) (ht : t < U.n) (g : Nat) (fl : List Nat) (a : Acc)
    (ha : a.disk = others.foldl (fun d p => cSave U d p.1 p.2) (cSave U d t r)) :
    (stepC U false g fl a t).vals = (t, some r.val) :: a.vals ∧
    (stepC U false g fl a t).execd = a.execd ∧
    (stepC U false g fl a t).loaded = (t, r) :: a.loaded :=
  second_run_loads_first_runs_result_params U sha1 task hrep hwf hdist hsha
    (Lt.Link.dumpsInjOn_of_wfFloats U.n task hfl) d t r hc hs others hne hlt wf ht g fl a ha

/-- non-vacuity: `Lt.Link.exPU` satisfies every hypothesis of the `_dumps_proved` theorems, and its
    `KeyInj` follows without any `json.dumps` assumption -/
example : Lt.Link.Represents Lt.Link.exPU Lt.Link.exSha Lt.Link.exTask ∧ Lt.Link.WfTasks 3 Lt.Link.exTask ∧
    Lt.Link.Distinct 3 Lt.Link.exTask ∧ Lt.Link.ShaInjOn Lt.Link.exSha 3 Lt.Link.exTask ∧
    Lt.Link.WfFloatsOn 3 Lt.Link.exTask ∧ KeyInj Lt.Link.exPU :=
  ⟨Lt.Link.exPU_represents, Lt.Link.exTask_wf, Lt.Link.exTask_distinct, Lt.Link.exSha_injOn,
   Lt.Link.exTask_wfFloats,
   keyInj_from_c07_dumps_proved Lt.Link.exPU Lt.Link.exSha Lt.Link.exTask Lt.Link.exPU_represents
     Lt.Link.exTask_wf Lt.Link.exTask_distinct Lt.Link.exSha_injOn Lt.Link.exTask_wfFloats⟩

end Lt.Props.C06
