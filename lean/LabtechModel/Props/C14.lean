import LabtechModel.Proofs.IntrWindow
import LabtechModel.Proofs.IntrStore
import LabtechModel.Proofs.IntrLimitW
/-!
# C14 — one Ctrl-C drains the run gracefully; a second one stops it at once

Model: `Model/Intr.lean` (M10). `Proofs/IntrRefine.lean` proves that M10 executed without an
interrupt IS the validated coarse model (`prims_refine_iteration`, `run_refine`). An interrupt
instant is an index `k` into the main loop's primitive stream (`∀ k` = "every interrupt instant"),
a second interrupt an index `k2 = some m` into the first handler's stream (`m = 0`: before the
first `cancel` step; the handler logs inside its inner `try`, so every `m` leads to the second
handler). `m ≥` the handler's length = the second interrupt arrived after the handler was done:
same as no second interrupt.

`interrupt_before_loop` / `interrupt_in_finally`: an interrupt during planning (before the guarded
region) or inside `finally` changes no modelled state and propagates; nothing to prove in M10.
-/
namespace Lt

variable (cfg : Config) (p : Problem) (store : Store) (fuel : Nat) (sched ds : List Choice)

/-- A single interrupt at ANY instant `k` before the run completed: `run_tasks` leaves by
    `raise KeyboardInterrupt` (`interrupted`), or is still draining when the given drain schedule
    ends (`waiting`: the handler is still inside `while runner.pending_task_count() > 0`; a fair,
    long enough drain schedule excludes it: `drain_terminates` below). It never returns normally and
    the handler's bookkeeping never hits `KeyError`. The only other exit: a task FAILS during the
    drain and `continue_on_failure` is off — then the handler raises `LabError`. -/
theorem single_interrupt_raises_interrupt (k : Nat) (hk : k < (mainOf cfg p store fuel sched).length) :
    (interruptedRun cfg p store fuel sched k ds none).outcome = .interrupted ∨
    (interruptedRun cfg p store fuel sched k ds none).outcome = .waiting ∨
      (cfg.contOnFail = false ∧
        ∃ t, (interruptedRun cfg p store fuel sched k ds none).outcome = .raised (.labError t)) := by
  rw [interruptedRun_single store fuel sched ds k hk]
  exact handlerOutcome_cases _ _ ((Q_walk _).handler ds _ (stateAt_Q store fuel sched k)).last.1
    ((LabOK_walk _).handler ds _ (stateAt_LabOK store fuel sched k)).last

theorem single_interrupt_never_returns_nor_keyerror (k : Nat)
    (hk : k < (mainOf cfg p store fuel sched).length) :
    (interruptedRun cfg p store fuel sched k ds none).outcome ≠ .returned ∧
    (interruptedRun cfg p store fuel sched k ds none).outcome ≠ .raised .keyError := by
  rcases single_interrupt_raises_interrupt cfg p store fuel sched ds k hk with h | h | ⟨_, t, h⟩ <;>
    rw [h] <;> simp

/-- A second interrupt at ANY instant `m` of the first handler: `KeyboardInterrupt` again — never a
    normal return, never `KeyError`, and no waiting (the outcome is not `waiting` whatever the drain
    schedule); only a task failure seen by the single last processing round, with
    `continue_on_failure` off, turns into `LabError`. -/
theorem double_interrupt_raises_interrupt (k m : Nat) (hk : k < (mainOf cfg p store fuel sched).length)
    (hm : m < (handlerPrims cfg p (reqTids p) ds (stateAt cfg p store fuel sched k)).length) :
    (interruptedRun cfg p store fuel sched k ds (some m)).outcome = .interrupted ∨
      (cfg.contOnFail = false ∧
        ∃ t, (interruptedRun cfg p store fuel sched k ds (some m)).outcome = .raised (.labError t)) := by
  rw [interruptedRun_double store fuel sched ds k m hk hm]
  exact handlerOutcome_true_cases _
    ((Q_walk _).second _ (((Q_walk _).handler ds _ (stateAt_Q store fuel sched k)).prefix m)).last.1
    ((LabOK_walk _).second _ (((LabOK_walk _).handler ds _ (stateAt_LabOK store fuel sched k)).prefix m)).last

/-- No task is submitted and no worker is started after the (first) interrupt — with or without a
    second interrupt, at any instants: the trace only grows, and what it gains contains no
    `Ev.start` and no `Ev.submit`. (The serial runner's `run()` in the caller counts as a start.) -/
theorem no_start_after_interrupt (k : Nat) (k2 : Option Nat)
    (hk : k < (mainOf cfg p store fuel sched).length) :
    ∃ l, (interruptedRun cfg p store fuel sched k ds k2).final.rs.trace =
        (interruptedRun cfg p store fuel sched k ds k2).atIntr.rs.trace ++ l ∧
      ∀ e ∈ l, (∀ t, e ≠ Ev.start t) ∧ (∀ t uc, e ≠ Ev.submit t uc) := by
  have single : ∃ l, (interruptedRun cfg p store fuel sched k ds none).final.rs.trace =
        (interruptedRun cfg p store fuel sched k ds none).atIntr.rs.trace ++ l ∧
      ∀ e ∈ l, (∀ t, e ≠ Ev.start t) ∧ (∀ t uc, e ≠ Ev.submit t uc) := by
    rw [interruptedRun_single store fuel sched ds k hk]
    obtain ⟨l, h1, h2⟩ := handler_trace (reqTids p) ds
      (stateAt cfg p store fuel sched k)
      (handlerPrims cfg p (reqTids p) ds (stateAt cfg p store fuel sched k)).length
    rw [List.take_length] at h1
    exact ⟨l, h1, fun e he => evLaunch_false e (h2 e he)⟩
  cases k2 with
  | none => exact single
  | some m =>
    by_cases hm : m < (handlerPrims cfg p (reqTids p) ds (stateAt cfg p store fuel sched k)).length
    · rw [interruptedRun_double store fuel sched ds k m hk hm]
      obtain ⟨l1, h1, h1'⟩ := handler_trace (reqTids p) ds
        (stateAt cfg p store fuel sched k) m
      obtain ⟨l2, h2, h2'⟩ := second_trace (reqTids p)
        (runPrims cfg p ((handlerPrims cfg p (reqTids p) ds (stateAt cfg p store fuel sched k)).take m)
          (stateAt cfg p store fuel sched k))
      refine ⟨l1 ++ l2, ?_, ?_⟩
      · simp only; rw [h2, h1, List.append_assoc]
      · intro e he
        rcases List.mem_append.mp he with he | he
        · exact evLaunch_false e (h1' e he)
        · exact evLaunch_false e (h2' e he)
    · rw [interruptedRun_late store fuel sched ds k m hk hm]; exact single

/-- The cache is left consistent: whatever the interrupt instants (any `k`, any `k2`, also an
    uninterrupted run), every store entry at exit either was there before the run or is the value
    that a recorded execution of that very task's `run()` computed (and the task type is
    cacheable): no foreign and no invented entries. (Torn files are the subject of C13.) -/
theorem store_consistent (k : Nat) (k2 : Option Nat) (t : Tid) (v : Val)
    (h : (t, v) ∈ (interruptedRun cfg p store fuel sched k ds k2).final.rs.store) :
    (t, v) ∈ store ∨
    (p.cacheable (p.ty t) = true ∧
      ∃ seen, Ev.exec t seen ∈ (interruptedRun cfg p store fuel sched k ds k2).final.rs.trace ∧
        p.behave t seen = some v) := by
  have h0 := SI_init (cfg := cfg) (p := p) store fuel
  have key : SI p store (interruptedRun cfg p store fuel sched k ds k2).final := by
    rcases (interruptedRun_cases store fuel sched ds k k2).2 with ⟨_, e⟩ | ⟨_, e⟩ | ⟨_, _, e⟩ <;> rw [e]
    · exact runPrims_SI _ _ _ h0
    · exact runPrims_SI _ _ _ (runPrims_SI _ _ _ h0)
    · exact runPrims_SI _ _ _ (runPrims_SI _ _ _ (runPrims_SI _ _ _ h0))
  exact key.1 t v h

/-!
## Workers that were executing at the interrupt

FULL STATEMENT (false — finding F14a, `untracked_worker_after_interrupt_between_start_and_tracking`):
  `drain_waits_for_running`: for every `k < length`, with no second interrupt, if the handler leaves
  by `KeyboardInterrupt` then no worker process is alive at exit.
It fails for `k` in the submit path between `process.start()` and `future_to_task[future] = task`
(`procStart j` … `regFuture t`): the worker exists, but is not (yet) in the running map, or is in it
without being in `future_to_task`, so `while pending_task_count() > 0` does not wait for it.
Witnesses: `finding_untracked_worker_*` below. What IS proved: from every interrupt instant at
which every live worker is tracked (`Tr`: in the running map, its future in `future_to_task`,
uncancelled, unfinished — true inside the wait/processing phase), the drain loop's exit implies
that nobody is alive, and everyone who was alive ran to completion (its record is in the trace;
the model applies a worker's save in the same atomic step that consumes its report) or died by
itself. (`terminated` is only ever extended by `stopOne`, which the first handler does not emit.)
-/

/-- `drain_waits_for_running`, proved part: hypothesis `Tr` at the interrupt instant. -/
theorem drain_waits_for_running_partial (k : Nat) (hk : k < (mainOf cfg p store fuel sched).length)
    (htr : Tr cfg (stateAt cfg p store fuel sched k))
    (hout : (interruptedRun cfg p store fuel sched k ds none).outcome = .interrupted) :
    (interruptedRun cfg p store fuel sched k ds none).final.alive = [] ∧
    ∀ t ∈ (stateAt cfg p store fuel sched k).alive,
      t ∈ (interruptedRun cfg p store fuel sched k ds none).final.terminated ∨ p.dies t = true ∨
      t ∈ ranOf (interruptedRun cfg p store fuel sched k ds none).final.rs.trace := by
  rw [interruptedRun_single store fuel sched ds k hk] at hout ⊢
  simp only at hout ⊢
  have hT := (always_Tr_handler (cfg := cfg) (p := p) (reqTids p) ds _ htr).last
  obtain ⟨hd, _⟩ := handlerOutcome_interrupted _ _ hout
  have hf : (runPrims cfg p (handlerPrims cfg p (reqTids p) ds (stateAt cfg p store fuel sched k))
      (stateAt cfg p store fuel sched k)).rs.futs = [] := by
    simpa [List.isEmpty_iff] using hd
  have hal := hT.no_alive_of_drained hf
  exact ⟨hal, (runPrims_Acc _ _ _ (fun _ ht => Or.inl ht)).accounted hal⟩

/-- `double_interrupt_stops`, proved part (same hypothesis `Tr` at the first interrupt; the FULL
    STATEMENT without it is false for the same windows, witness `finding_untracked_worker_double`):
    a second interrupt at any instant `m` of the first handler that ends in `KeyboardInterrupt`
    leaves nobody alive — every worker alive at the first interrupt was terminated by `stop()`,
    or had reported / died before. By construction (`secondPrims`,
    `double_interrupt_one_last_round`) nothing but `cancel`, `stop` and ONE processing round
    follows the second interrupt, and `double_interrupt_raises_interrupt` shows the outcome is
    never `waiting`. -/
theorem double_interrupt_stops_partial (k m : Nat) (hk : k < (mainOf cfg p store fuel sched).length)
    (hm : m < (handlerPrims cfg p (reqTids p) ds (stateAt cfg p store fuel sched k)).length)
    (htr : Tr cfg (stateAt cfg p store fuel sched k))
    (hout : (interruptedRun cfg p store fuel sched k ds (some m)).outcome = .interrupted) :
    (interruptedRun cfg p store fuel sched k ds (some m)).final.alive = [] ∧
    ∀ t ∈ (stateAt cfg p store fuel sched k).alive,
      t ∈ (interruptedRun cfg p store fuel sched k ds (some m)).final.terminated ∨ p.dies t = true ∨
      t ∈ ranOf (interruptedRun cfg p store fuel sched k ds (some m)).final.rs.trace := by
  rw [interruptedRun_double store fuel sched ds k m hk hm] at hout ⊢
  simp only at hout ⊢
  have hT1 := (always_Tr_handler (cfg := cfg) (p := p) (reqTids p) ds _ htr).prefix m
  obtain ⟨_, hnr⟩ := handlerOutcome_interrupted _ _ hout
  -- the state at the second interrupt is running: otherwise the second handler changes nothing
  have hrun1 := running_of_not_raised _ _ (NoRet_runs _ _) hnr
  have hal := second_no_alive (cfg := cfg) (p := p) (reqTids p) _ hT1 hrun1
  exact ⟨hal, (runPrims_Acc _ _ _ (runPrims_Acc _ _ _ (fun _ ht => Or.inl ht))).accounted hal⟩

/-- after the second interrupt: `cancel()`, `stop()`, one `process_completed_tasks()`, nothing else -/
theorem double_interrupt_one_last_round (s : IS) :
    ∃ c0 st, secondPrims cfg p (reqTids p) s = c0 ++ st ++ waitPrims cfg p (reqTids p) noWait
        (runPrims cfg p st (runPrims cfg p c0 s)) ∧
      c0 = cancelPrims cfg s ∧ st = stopPrims cfg (runPrims cfg p c0 s) :=
  ⟨_, _, rfl, rfl, rfl⟩

/-- two independent tasks and one that needs both -/
def c14P : Problem where
  tidOf := fun i => i
  children := fun i => if i = 2 then [0, 1] else []
  requested := [2]
  ty := fun _ => 0
  maxPar := fun _ => none
  cacheable := fun _ => true
  fails := fun _ => false
  dies := fun _ => false
  behave := fun t vs => some (1000 * t + (vs.map (fun o => o.getD 7)).foldl (· + ·) 0)

def c14Cfg : Config := { backend := .fork, maxWorkers := 2, contOnFail := true, bust := false }
def c14All : Choice := ⟨fun _ => true⟩
def c14First : Choice := ⟨fun i => i == 0⟩
def c14Sched : List Choice := [c14All, c14All, c14All, c14All]

/- the main stream (43 primitives): 0 startTask 0, 1 enqueue 0, 2 procStart 0, 3 regRunning 0,
   4 unregPending 0, 5 regFuture 0, 6..11 the same for task 1, 12 consumeResults, 13 popFuture 0,
   14 storeResult 0, 15 markInstances 0, 16 removeActive 0, 17 unblockOne 0 2, 18 removeDone, … -/
theorem c14_main_length : (mainOf c14Cfg c14P [] 4 c14Sched).length = 43 := by decide +kernel

example : (mainOf c14Cfg c14P [] 4 c14Sched).length = 43 := c14_main_length

/-- the run interrupted at `k = 9`, drained along three rounds in which everybody reports -/
theorem c14_run9 :
    (interruptedRun c14Cfg c14P [] 4 c14Sched 9 [c14All, c14All, c14All] none).outcome = .interrupted ∧
    (interruptedRun c14Cfg c14P [] 4 c14Sched 9 [c14All, c14All, c14All] none).final.alive = [1] := by
  decide +kernel

/-- an interrupt between `process.start()` and the registration in the running map (the window in
    which the drain used to hang, D14): the drain terminates with `KeyboardInterrupt` … -/
example : (interruptedRun c14Cfg c14P [] 4 c14Sched 9 [c14All, c14All, c14All] none).outcome = .interrupted :=
  c14_run9.1

/-- … but FINDING F14a (a): that worker (task 1) is alive at exit, nobody waited for it -/
theorem finding_untracked_worker_start_window :
    (interruptedRun c14Cfg c14P [] 4 c14Sched 9 [c14All, c14All, c14All] none).final.alive = [1] := c14_run9.2

/-- FINDING F14a (b): interrupt after the worker is in the running map but before
    `future_to_task[future] = task` (k = 11): `KeyboardInterrupt`, worker 1 still alive -/
theorem finding_untracked_worker_submit_window :
    (interruptedRun c14Cfg c14P [] 4 c14Sched 11 [c14First, c14First, c14First] none).outcome = .interrupted ∧
    (interruptedRun c14Cfg c14P [] 4 c14Sched 11 [c14First, c14First, c14First] none).final.alive = [1] := by
  decide +kernel

/-- FINDING F14a, double interrupt: the worker of the start window is not in the running map, so
    `stop()` does not terminate it (task 0's worker is terminated, task 1's stays alive) -/
theorem finding_untracked_worker_double :
    (interruptedRun c14Cfg c14P [] 4 c14Sched 9 [c14All] (some 0)).outcome = .interrupted ∧
    (interruptedRun c14Cfg c14P [] 4 c14Sched 9 [c14All] (some 0)).final.alive = [1] ∧
    (interruptedRun c14Cfg c14P [] 4 c14Sched 9 [c14All] (some 0)).final.terminated = [0] := by decide +kernel

/-- an interrupt after `future_to_task.pop(future)` and before `complete_task` (k = 14): the popped
    task is not yielded again, no `KeyError`; task 1 is still drained and cached -/
example :
    (interruptedRun c14Cfg c14P [] 4 c14Sched 14 [c14All, c14All, c14All] none).outcome = .interrupted ∧
    (interruptedRun c14Cfg c14P [] 4 c14Sched 14 [c14All, c14All, c14All] none).final.alive = [] ∧
    (interruptedRun c14Cfg c14P [] 4 c14Sched 14 [c14All, c14All, c14All] none).final.rs.store.map (·.1) = [1, 0] := by
  decide +kernel

/-- a double interrupt while both workers run (k = 12, second interrupt before the first drain
    round): both terminated, nothing cached, `KeyboardInterrupt` -/
example :
    (interruptedRun c14Cfg c14P [] 4 c14Sched 12 [c14First, c14First, c14First] (some 0)).outcome = .interrupted ∧
    (interruptedRun c14Cfg c14P [] 4 c14Sched 12 [c14First, c14First, c14First] (some 0)).final.alive = [] ∧
    (interruptedRun c14Cfg c14P [] 4 c14Sched 12 [c14First, c14First, c14First] (some 0)).final.terminated = [0, 1] ∧
    (interruptedRun c14Cfg c14P [] 4 c14Sched 12 [c14First, c14First, c14First] (some 0)).final.rs.store = [] := by
  decide +kernel

/-- the state at `k = 12`: both workers started and in the running map, both futures tracked -/
theorem c14_at12 : (stateAt c14Cfg c14P [] 4 c14Sched 12).alive = [0, 1] ∧
    (stateAt c14Cfg c14P [] 4 c14Sched 12).rs.running.length = 2 ∧
    (stateAt c14Cfg c14P [] 4 c14Sched 12).rs.status = .running ∧
    (stateAt c14Cfg c14P [] 4 c14Sched 12).rs.futs = [0, 1] := by decide +kernel

/-- the hypothesis `Tr` of the `_partial` theorems is satisfiable at an instant with live workers
    (k = 12: both workers running, both tracked) … -/
example : Tr c14Cfg (stateAt c14Cfg c14P [] 4 c14Sched 12) ∧
    (stateAt c14Cfg c14P [] 4 c14Sched 12).alive = [0, 1] :=
  ⟨stateAt_Tr_outside [] 4 c14Sched 12 (by decide +kernel), c14_at12.1⟩

/-- … and fails exactly in the finding's window (k = 9) -/
example : ¬ Tr c14Cfg (stateAt c14Cfg c14P [] 4 c14Sched 9) :=
  stateAt_not_Tr_inside (by decide) [] 4 c14Sched 9 (by decide +kernel)

/-- serial runner, re-execution of a cached key (`bust_cache`, entries 0 ↦ 5 and 1 ↦ 6 present):
    an interrupt INSIDE `BaseCache.save` (k = 7: after `serialSaveBegin`, before `serialSaveEnd`)
    runs save's cleanup, which deletes the key — the old entry of task 0 is gone, task 1's stays;
    one step earlier (k = 6) the old entry is intact, one step later (k = 8) the new one is there.
    `store_consistent` covers all three: entries are only ever prior or genuinely computed ones. -/
example :
    (interruptedRun { c14Cfg with backend := .serial, bust := true } c14P [(0, 5), (1, 6)] 4 c14Sched 6 [] none).final.rs.store
      = [(0, 5), (1, 6)] ∧
    (interruptedRun { c14Cfg with backend := .serial, bust := true } c14P [(0, 5), (1, 6)] 4 c14Sched 7 [] none).final.rs.store
      = [(1, 6)] ∧
    (interruptedRun { c14Cfg with backend := .serial, bust := true } c14P [(0, 5), (1, 6)] 4 c14Sched 8 [] none).final.rs.store
      = [(0, 0), (1, 6)] ∧
    (interruptedRun { c14Cfg with backend := .serial, bust := true } c14P [(0, 5), (1, 6)] 4 c14Sched 7 [] none).outcome
      = .interrupted := by decide +kernel

/-!
## (A) The drain loop of the first handler ends

`single_interrupt_raises_interrupt` leaves `waiting` as a possible outcome because nothing there says
that `while runner.pending_task_count() > 0` ends. It does: at EVERY interrupt instant every tracked
future is cancelled, done, the future of a dead process, in the running map or still queued
(`tracked_future_covered`; no hypothesis, also inside the F14a window) — there is no instant at which
a future is tracked but nowhere, which is what made the drain spin for ever before D14 was repaired.
`cancel()` cancels the queued ones; one drain round pops everything that is cancelled / done / dead;
what stays tracked is in the running map; a fair round (`FairDrain`: the first running worker
reports) shrinks the running map. So after at most `len(running map at the interrupt) + 1` fair
rounds the loop has ended: NO HANG at any instant `k` (`drain_terminates`). Outside the window the
running map is no longer than `future_to_task` (`drain_terminates_tracked`).
-/

/-- at every interrupt instant (process runners, no exception propagating) every tracked future is
    cancelled, or holds an outcome, or belongs to a dead process the dead-process loop will mark,
    or is in the running map, or is still queued in the executor -/
theorem tracked_future_covered (k : Nat) (hb : cfg.backend ≠ .serial)
    (hrun : (stateAt cfg p store fuel sched k).rs.status = .running) :
    ∀ t ∈ (stateAt cfg p store fuel sched k).rs.futs,
      t ∈ (stateAt cfg p store fuel sched k).cancelled ∨
      t ∈ (stateAt cfg p store fuel sched k).done.map (·.1) ∨
      t ∈ (stateAt cfg p store fuel sched k).zombies ∨
      t ∈ (stateAt cfg p store fuel sched k).rs.running.map Job.tid ∨
      t ∈ (stateAt cfg p store fuel sched k).rs.queued.map Job.tid :=
  fun t ht => stateAt_Cov store fuel sched k hb hrun t (Or.inl ht)

/-- Liveness of the drain, at ANY interrupt instant `k`: under a fair drain schedule with more
    rounds than entries in the running map at the interrupt, the handler is never still waiting. -/
theorem drain_terminates (k : Nat) (hk : k < (mainOf cfg p store fuel sched).length)
    (hfair : FairDrain ds)
    (hlen : (stateAt cfg p store fuel sched k).rs.running.length + 1 ≤ ds.length) :
    (interruptedRun cfg p store fuel sched k ds none).outcome ≠ .waiting := by
  rw [interruptedRun_single store fuel sched ds k hk]
  simp only
  have hfut := handler_fair (cfg := cfg) (p := p) (reqTids p) ds (stateAt cfg p store fuel sched k) hfair
    (stateAt_Cov store fuel sched k) hlen
  have hnoret : NoRet (runPrims cfg p (handlerPrims cfg p (reqTids p) ds (stateAt cfg p store fuel sched k))
      (stateAt cfg p store fuel sched k)) := NoRet_runs _ _
  unfold handlerOutcome
  cases hs : (runPrims cfg p (handlerPrims cfg p (reqTids p) ds (stateAt cfg p store fuel sched k))
      (stateAt cfg p store fuel sched k)).rs.status with
  | running => simp [hfut hs]
  | returned r => exact absurd hs (hnoret r)
  | raised e => simp

/-- A single interrupt at ANY instant `k`, fair drain: `run_tasks` leaves by `KeyboardInterrupt` —
    or, only without `continue_on_failure`, by `LabError` for a task that failed during the drain. -/
theorem single_interrupt_raises_interrupt_fair (k : Nat) (hk : k < (mainOf cfg p store fuel sched).length)
    (hfair : FairDrain ds)
    (hlen : (stateAt cfg p store fuel sched k).rs.running.length + 1 ≤ ds.length) :
    (interruptedRun cfg p store fuel sched k ds none).outcome = .interrupted ∨
      (cfg.contOnFail = false ∧
        ∃ t, (interruptedRun cfg p store fuel sched k ds none).outcome = .raised (.labError t)) := by
  rcases single_interrupt_raises_interrupt cfg p store fuel sched ds k hk with h | h | h
  · exact Or.inl h
  · exact absurd h (drain_terminates cfg p store fuel sched ds k hk hfair hlen)
  · exact Or.inr h

/-!
## (B) Where `Tr` holds: exactly outside the start-and-track windows

`inWindow pre` (decidable, a fold over the executed prefix `pre` of the main stream):
`_start_processes` has executed `process.start()` for a future and not yet `del _pending…[future]`
(`procStart j … unregPending j`, called from `submit` or from `wait`), or `submit_task(t)` is in
progress and the worker of `t` has been started (`procStart t … regFuture t`).
-/

/-- `Tr` holds at every interrupt instant outside the window -/
theorem tr_outside_window (k : Nat)
    (hw : inWindow ((mainOf cfg p store fuel sched).take k) = false) :
    Tr cfg (stateAt cfg p store fuel sched k) :=
  stateAt_Tr_outside store fuel sched k hw

/-- process runners: the window is EXACT — at every interrupt instant, `Tr` holds iff the instant is
    outside the window (inside: right after `process.start()` the worker is alive and in no map;
    after its registration as running the future is pending and running at once; after
    `del _pending…` in the submit path the running entry's future is not in `future_to_task`) -/
theorem tr_iff_outside_window (hb : cfg.backend ≠ .serial) (k : Nat) :
    Tr cfg (stateAt cfg p store fuel sched k) ↔
      inWindow ((mainOf cfg p store fuel sched).take k) = false := by
  constructor
  · intro htr
    cases hw : inWindow ((mainOf cfg p store fuel sched).take k) with
    | false => rfl
    | true => exact absurd htr (stateAt_not_Tr_inside hb store fuel sched k hw)
  · exact tr_outside_window cfg p store fuel sched k

/-- `Tr` holds at every loop head: the state at the head of iteration `i` (= the end of the main
    stream of the schedule cut after `i` rounds, which is an interrupt instant `k` of the run) -/
theorem tr_at_loop_heads (i : Nat) :
    Tr cfg (runPrims cfg p (mainOf cfg p store fuel (sched.take i)) (initIS cfg p store fuel)) ∧
    ∃ k, (mainOf cfg p store fuel sched).take k = mainOf cfg p store fuel (sched.take i) :=
  ⟨mainEnd_Tr store fuel (sched.take i), mainStream_take (reqTids p) sched _ i⟩

/-- a loop head is outside the window -/
theorem loop_head_outside_window (i : Nat) (hb : cfg.backend ≠ .serial) :
    inWindow (mainOf cfg p store fuel (sched.take i)) = false :=
  mainEnd_outside store fuel (sched.take i) hb

/-- `drain_waits_for_running` with the window as the only hypothesis: from every interrupt instant
    outside the window, when the handler leaves by `KeyboardInterrupt` no worker is alive, and
    everyone who was alive at the interrupt ran to completion or died by itself. -/
theorem drain_waits_for_running_outside_window (k : Nat) (hk : k < (mainOf cfg p store fuel sched).length)
    (hw : inWindow ((mainOf cfg p store fuel sched).take k) = false)
    (hout : (interruptedRun cfg p store fuel sched k ds none).outcome = .interrupted) :
    (interruptedRun cfg p store fuel sched k ds none).final.alive = [] ∧
    ∀ t ∈ (stateAt cfg p store fuel sched k).alive,
      t ∈ (interruptedRun cfg p store fuel sched k ds none).final.terminated ∨ p.dies t = true ∨
      t ∈ ranOf (interruptedRun cfg p store fuel sched k ds none).final.rs.trace :=
  drain_waits_for_running_partial cfg p store fuel sched ds k hk
    (tr_outside_window cfg p store fuel sched k hw) hout

/-- `double_interrupt_stops` with the window (of the FIRST interrupt) as the only hypothesis -/
theorem double_interrupt_stops_outside_window (k m : Nat) (hk : k < (mainOf cfg p store fuel sched).length)
    (hm : m < (handlerPrims cfg p (reqTids p) ds (stateAt cfg p store fuel sched k)).length)
    (hw : inWindow ((mainOf cfg p store fuel sched).take k) = false)
    (hout : (interruptedRun cfg p store fuel sched k ds (some m)).outcome = .interrupted) :
    (interruptedRun cfg p store fuel sched k ds (some m)).final.alive = [] ∧
    ∀ t ∈ (stateAt cfg p store fuel sched k).alive,
      t ∈ (interruptedRun cfg p store fuel sched k ds (some m)).final.terminated ∨ p.dies t = true ∨
      t ∈ ranOf (interruptedRun cfg p store fuel sched k ds (some m)).final.rs.trace :=
  double_interrupt_stops_partial cfg p store fuel sched ds k m hk hm
    (tr_outside_window cfg p store fuel sched k hw) hout

/-- outside the window the running map is no longer than `future_to_task`: the drain needs at most
    `len(future_to_task at the interrupt) + 1` fair rounds -/
theorem drain_terminates_tracked (k : Nat) (hk : k < (mainOf cfg p store fuel sched).length)
    (hw : inWindow ((mainOf cfg p store fuel sched).take k) = false)
    (hfair : FairDrain ds)
    (hlen : (stateAt cfg p store fuel sched k).rs.futs.length + 1 ≤ ds.length) :
    (interruptedRun cfg p store fuel sched k ds none).outcome ≠ .waiting := by
  have htr := tr_outside_window cfg p store fuel sched k hw
  apply drain_terminates cfg p store fuel sched ds k hk hfair
  have h1 : ((stateAt cfg p store fuel sched k).rs.running.map Job.tid).length ≤
      (stateAt cfg p store fuel sched k).rs.futs.length :=
    nodup_subset_length_le _ _ htr.runNd (fun a ha => by
      obtain ⟨j, hj, rfl⟩ := List.mem_map.mp ha
      exact htr.runFut j hj)
  rw [List.length_map] at h1
  omega

/-- The drain bound in terms of the CONFIGURATION: at every interrupt instant the running map holds at
    most `max_workers` entries (the every-instant worker limit of C04, `always_W_main`), so
    `max_workers + 1` fair drain rounds always suffice — whatever the instant, window or not. -/
theorem drain_terminates_max_workers (k : Nat) (hk : k < (mainOf cfg p store fuel sched).length)
    (hfair : FairDrain ds) (hlen : cfg.maxWorkers + 1 ≤ ds.length) :
    (interruptedRun cfg p store fuel sched k ds none).outcome ≠ .waiting := by
  apply drain_terminates cfg p store fuel sched ds k hk hfair
  have h2 := (stateAt_WOK (cfg := cfg) (p := p) store fuel sched k).2
  omega

/-- … and with it the single-interrupt outcome theorem needs no knowledge of the state at the
    interrupt: `max_workers + 1` fair rounds, any instant. -/
theorem single_interrupt_raises_interrupt_max_workers (k : Nat)
    (hk : k < (mainOf cfg p store fuel sched).length)
    (hfair : FairDrain ds) (hlen : cfg.maxWorkers + 1 ≤ ds.length) :
    (interruptedRun cfg p store fuel sched k ds none).outcome = .interrupted ∨
      (cfg.contOnFail = false ∧
        ∃ t, (interruptedRun cfg p store fuel sched k ds none).outcome = .raised (.labError t)) := by
  apply single_interrupt_raises_interrupt_fair cfg p store fuel sched ds k hk hfair
  have h2 := (stateAt_WOK (cfg := cfg) (p := p) store fuel sched k).2
  omega

/-- three independent tasks on two workers: the third one is started by `_start_processes` called
    from `wait` (main stream: … 14 `regFuture 2`, 15 `consumeResults`, 16 `procStart 2`,
    17 `regRunning 2`, 18 `unregPending 2`, 19 `popFuture 0` …) -/
def c14W : Problem where
  tidOf := fun i => i
  children := fun _ => []
  requested := [0, 1, 2]
  ty := fun _ => 0
  maxPar := fun _ => none
  cacheable := fun _ => true
  fails := fun _ => false
  dies := fun _ => false
  behave := fun t _ => some (1000 * t)

def c14Fair : List Choice := [c14First, c14First, c14First]
def c14WSched : List Choice := [c14First, c14First, c14First, c14First]

theorem c14Fair_fair : FairDrain c14Fair := by unfold FairDrain c14Fair; decide +kernel

/-- the run interrupted at `k = 12` (both workers running), drained along `c14Fair` -/
theorem c14_run12 : (interruptedRun c14Cfg c14P [] 4 c14Sched 12 c14Fair none).outcome = .interrupted ∧
    (interruptedRun c14Cfg c14P [] 4 c14Sched 12 c14Fair none).final.alive = [] := by decide +kernel

/-- `drain_terminates` / `single_interrupt_raises_interrupt_fair` are not vacuous: both workers
    running at `k = 12`, three fair rounds in which only the first worker reports -/
example : FairDrain c14Fair ∧
    (stateAt c14Cfg c14P [] 4 c14Sched 12).rs.running.length + 1 ≤ c14Fair.length ∧
    (interruptedRun c14Cfg c14P [] 4 c14Sched 12 c14Fair none).outcome = .interrupted :=
  ⟨c14Fair_fair, by rw [c14_at12.2.1]; decide, c14_run12.1⟩

/-- `drain_terminates_max_workers` is not vacuous: `max_workers = 2`, three fair rounds, every instant
    of the main stream is covered by the one hypothesis (and `max_workers` rounds are not enough:
    the next example) -/
example : c14Cfg.maxWorkers + 1 ≤ c14Fair.length ∧ 12 < (mainOf c14Cfg c14P [] 4 c14Sched).length ∧
    (interruptedRun c14Cfg c14P [] 4 c14Sched 12 c14Fair none).outcome = .interrupted :=
  ⟨by decide, by rw [c14_main_length]; decide, c14_run12.1⟩

/-- the length bound is needed: one fair round is not enough for two running workers … -/
example : FairDrain [c14First] ∧
    (interruptedRun c14Cfg c14P [] 4 c14Sched 12 [c14First] none).outcome = .waiting :=
  ⟨by unfold FairDrain; decide +kernel, by decide +kernel⟩

/-- … and so is fairness: three rounds in which nobody reports -/
example : (interruptedRun c14Cfg c14P [] 4 c14Sched 12 [noWait, noWait, noWait] none).outcome = .waiting := by
  decide +kernel

/-- the drain also ends from INSIDE the window (k = 9, 10, 11), as `drain_terminates` says -/
example : (interruptedRun c14Cfg c14P [] 4 c14Sched 9 c14Fair none).outcome = .interrupted ∧
    (interruptedRun c14Cfg c14P [] 4 c14Sched 10 c14Fair none).outcome = .interrupted ∧
    (interruptedRun c14Cfg c14P [] 4 c14Sched 11 c14Fair none).outcome = .interrupted := by decide +kernel

/-- the window predicate on `c14P`'s main stream: outside at the loop head (0), after `enqueue 1`
    (8: nothing started yet) and after `regFuture 1` (12); inside after `procStart 1` (9),
    `regRunning 1` (10), `unregPending 1` (11: tracked as running, future not yet registered) -/
example : ((List.range 14).map (fun k => inWindow ((mainOf c14Cfg c14P [] 4 c14Sched).take k))) =
    [false, false, false, true, true, true, false, false, false, true, true, true, false, false] := by decide +kernel

/-- the `_outside_window` theorems are not vacuous (k = 12: outside, both workers alive) -/
example : inWindow ((mainOf c14Cfg c14P [] 4 c14Sched).take 12) = false ∧
    (stateAt c14Cfg c14P [] 4 c14Sched 12).alive = [0, 1] ∧
    (interruptedRun c14Cfg c14P [] 4 c14Sched 12 c14Fair none).outcome = .interrupted ∧
    (interruptedRun c14Cfg c14P [] 4 c14Sched 12 c14Fair none).final.alive = [] :=
  ⟨by decide +kernel, c14_at12.1, c14_run12⟩

/-- FINDING F14a is exactly the complement: inside each part of the window the conclusion of
    `drain_waits_for_running` fails for some problem (fair drain, outcome `KeyboardInterrupt`, a worker
    left alive).
    (a) submit path, after `process.start()`, before the running-map registration (k = 9);
    (b) submit path, registered as running and no longer pending, `future_to_task` not yet set (k = 11);
    (c) `_start_processes` called from `ProcessExecutor.wait`, after `process.start()` and before
        the registration (k = 17 on `c14W`): the future is still pending, `cancel()` cancels it, the
        drain pops it as cancelled, the started worker is in no map;
    (d) same call, registered as running but still pending too (k = 18): `cancel()` cancels the
        future of a RUNNING worker; the drain pops it as cancelled and does not wait for the worker. -/
theorem window_is_F14a :
    (inWindow ((mainOf c14Cfg c14P [] 4 c14Sched).take 9) = true ∧
      (interruptedRun c14Cfg c14P [] 4 c14Sched 9 c14Fair none).outcome = .interrupted ∧
      (interruptedRun c14Cfg c14P [] 4 c14Sched 9 c14Fair none).final.alive = [1]) ∧
    (inWindow ((mainOf c14Cfg c14P [] 4 c14Sched).take 11) = true ∧
      (interruptedRun c14Cfg c14P [] 4 c14Sched 11 c14Fair none).outcome = .interrupted ∧
      (interruptedRun c14Cfg c14P [] 4 c14Sched 11 c14Fair none).final.alive = [1]) ∧
    (inWindow ((mainOf c14Cfg c14W [] 4 c14WSched).take 17) = true ∧
      (interruptedRun c14Cfg c14W [] 4 c14WSched 17 c14Fair none).outcome = .interrupted ∧
      (interruptedRun c14Cfg c14W [] 4 c14WSched 17 c14Fair none).final.alive = [2]) ∧
    (inWindow ((mainOf c14Cfg c14W [] 4 c14WSched).take 18) = true ∧
      (interruptedRun c14Cfg c14W [] 4 c14WSched 18 c14Fair none).outcome = .interrupted ∧
      (interruptedRun c14Cfg c14W [] 4 c14WSched 18 c14Fair none).final.alive = [2]) := by decide +kernel

/-- FINDING (extension of F14a to the wait path), double interrupt: first interrupt after
    `process.start()` inside `wait`'s `_start_processes` (k = 17), second one at once: `stop()`
    terminates the one worker that is still in the running map (task 1; task 0's had reported), the
    just-started third one stays alive -/
theorem finding_untracked_worker_wait_path_double :
    (interruptedRun c14Cfg c14W [] 4 c14WSched 17 [c14First] (some 0)).outcome = .interrupted ∧
    (interruptedRun c14Cfg c14W [] 4 c14WSched 17 [c14First] (some 0)).final.alive = [2] ∧
    (interruptedRun c14Cfg c14W [] 4 c14WSched 17 [c14First] (some 0)).final.terminated = [1] := by
  decide +kernel

/-- the wait path's window closes with `unregPending` (k = 19 on `c14W`: outside, nobody left) -/
example : inWindow ((mainOf c14Cfg c14W [] 4 c14WSched).take 19) = false ∧
    inWindow ((mainOf c14Cfg c14W [] 4 c14WSched).take 16) = false ∧
    (interruptedRun c14Cfg c14W [] 4 c14WSched 19 c14Fair none).outcome = .interrupted ∧
    (interruptedRun c14Cfg c14W [] 4 c14WSched 19 c14Fair none).final.alive = [] := by decide +kernel

/-- `tr_at_loop_heads` / `loop_head_outside_window`: the head of the second iteration of `c14P`'s run is
    interrupt instant 25 (tasks 0 and 1 done, task 2 about to be submitted) -/
example : (mainOf c14Cfg c14P [] 4 (c14Sched.take 1)).length = 25 ∧
    inWindow ((mainOf c14Cfg c14P [] 4 c14Sched).take 25) = false ∧
    (stateAt c14Cfg c14P [] 4 c14Sched 25).rs.futs = [] ∧
    (stateAt c14Cfg c14P [] 4 c14Sched 25).rs.ts.pending = [2] := by decide +kernel

/-- `tracked_future_covered`, `tr_iff_outside_window`, `drain_terminates_tracked` and
    `double_interrupt_stops_outside_window` have satisfiable hypotheses (k = 12: process runner, status
    running, outside the window, two tracked futures, three fair rounds; second interrupt at m = 0) -/
example : c14Cfg.backend ≠ .serial ∧ (stateAt c14Cfg c14P [] 4 c14Sched 12).rs.status = .running ∧
    (stateAt c14Cfg c14P [] 4 c14Sched 12).rs.futs = [0, 1] ∧
    (stateAt c14Cfg c14P [] 4 c14Sched 12).rs.futs.length + 1 ≤ c14Fair.length ∧
    0 < (handlerPrims c14Cfg c14P (reqTids c14P) c14Fair (stateAt c14Cfg c14P [] 4 c14Sched 12)).length ∧
    (interruptedRun c14Cfg c14P [] 4 c14Sched 12 c14Fair (some 0)).outcome = .interrupted ∧
    (interruptedRun c14Cfg c14P [] 4 c14Sched 12 c14Fair (some 0)).final.alive = [] :=
  ⟨by decide, c14_at12.2.2.1, c14_at12.2.2.2, by rw [c14_at12.2.2.2]; decide, by decide +kernel⟩

end Lt
