import LabtechModel.Proofs.PathLemmas
import LabtechModel.Proofs.PathTouch
import LabtechModel.Proofs.PathRoot
/-!
# C18 — Local storage never reads, writes or deletes outside its directory

Model: `LabtechModel/Model/Path.lean` (M8) — `validate_file_path_key`, `LocalStorage._key_to_path`,
`exists`, `file_handle` and `delete` (with the `is_symlink` checks of /repo commits a78c04e and becc08b), on top of
CPython 3.12's `_joinrealpath` / `normpath` / `Path.resolve` and the kernel's path walk.

Every statement is closed under: every file tree `fs` (any finite map path ↦ dir | file | symlink with
any target string: links to siblings, to the root, to the outside, dangling, loops), every recursion
budget `fuel`, every storage path `sp`, every key, filename and mode string.  `r` is the storage
directory, i.e. what `storage_path.resolve()` returns in that tree; the only hypothesis on it is
`r.comps ≠ []` (the storage directory is not `/`).

Two levels:
* *path level* (unconditional): the path strings handed to the OS are `r/c` (mkdir, stat, rmtree) and
  `r/c/f` (lstat, open) for one component `c`, whatever the tree looks like;
* *node level*: the nodes those calls touch are these very paths when the resolved paths are free of
  symlinks.  `realpath` guarantees that only when it did not hit a symlink loop
  (`realpath_link_free_partial`; the unrestricted statement is FALSE, see
  `realpath_link_free_fails`), which is why `file_handle` needed the `is_symlink` check
  (`old_file_handle_escapes`, `new_file_handle_rejects`).  With the check the end of the opened path is
  never a symlink (`open_end_not_symlink`, unconditional), and since commit becc08b neither is the end
  of an accepted key path (`key_end_not_symlink`); the node-level statements
  (`file_handle_touches_partial`, `delete_touches_partial`) only assume that the resolution of the
  *storage directory's own path* met no loop.

With NO hypothesis on the root at all the node-level confinement holds relative to the directory `R`
that the kernel reaches through `storage_path.resolve()`: `delete` removes only the child `R/c`
(`delete_touches_real`), `file_handle` creates only `R/c` and writes only a direct child `K/f` of the
directory `K` the kernel reaches through the key path `r/c` (`file_handle_touches_real`). If `r` is
symlink-free then `R = r`: the `…_partial` statements are read off these.

What the hypothesis of the `…_partial` statements amounts to (section "the storage root" at the end):
* it is NECESSARY for the conclusion as stated (`root_loop_witness`: a root `/s -> l/../t`, `/l -> l`,
  `/t -> /o` resolves to `r = /t`, and `delete('k')` removes `/o/k`, which is not `r/k` as a node);
* it FOLLOWS from a property of the tree alone: the stored root is a normal path none of whose
  prefixes is a symlink (`root_linkfree_no_loop`; theorems `…_linkfree_root`) — which is what
  `LocalStorage.__init__` establishes, `self._storage_path = storage_dir.resolve()`, when that
  constructor-time resolution met no loop and the tree above the root has not been changed since
  (`…_ctor_partial`: all hypotheses are about the constructor-time tree + a frame condition).
-/
namespace Lt.Props.C18
open Lt.Path

/-- `'/'` and `'.'` are among `disallowed_key_chars` as extracted from /repo's source (`Model/Generated.lean`) -/
theorem slash_and_dot_forbidden : '/' ∈ disallowed ∧ '.' ∈ disallowed := by decide +kernel

/-- a key that passes the emptiness and forbidden-character tests is one normal path component:
    `storage_path / key` appends exactly `key`, which is not `''`, `.` or `..` and has no separator.
    (Depends on `'/'` and `'.'` being forbidden in the *source*: `Generated.lean` is regenerated on
    every check.) -/
theorem key_single_component (sp : RPath) (key : List Char) (hne : key ≠ [])
    (hc : disallowed.any (fun c => key.contains c) = false) :
    pjoin sp key = ⟨sp.ds, sp.comps ++ [key]⟩ ∧ key ≠ dot ∧ key ≠ dotdot ∧ '/' ∉ key := by
  have hno : ∀ c ∈ disallowed, c ∉ key := fun c h hk => by
    have := List.any_eq_false.mp hc c h
    simp [hk] at this
  have hs : '/' ∉ key := hno _ slash_and_dot_forbidden.1
  have hd : '.' ∉ key := hno _ slash_and_dot_forbidden.2
  have h1 : key ≠ dot := by intro e; apply hd; simp [e, dot]
  have h2 : key ≠ dotdot := by intro e; apply hd; simp [e, dotdot]
  refine ⟨?_, h1, h2, hs⟩
  have habs : isAbs key = false := by
    cases key with
    | nil => exact absurd rfl hne
    | cons a as =>
      simp only [isAbs, List.head?_cons]
      have : a ≠ '/' := by intro e; apply hs; simp [e]
      simp [this]
  simp only [pjoin, splitSlash_no_slash key hs, habs]
  simp [hne, h1]

/-- **validate_direct_child**: whatever the tree, the key and the links in the way, an accepted key
    resolves to a direct child `r/c` of the resolved storage directory -/
theorem validate_direct_child (fs : FS) (fuel : Nat) (sp : RPath) (key : List Char) (kp r : RPath)
    (hr : resolve fs fuel sp = .ok r) (hroot : r.comps ≠ [])
    (h : keyToPath fs fuel sp key = .ok kp) : ∃ c, kp = ⟨r.ds, r.comps ++ [c]⟩ := by
  obtain ⟨r', hr', hp⟩ := (keyToPath_ok h).parent
  rw [hr] at hr'
  cases hr'
  exact parent_eq_child hroot hp

/-- the path an effect is performed on is `r/c` (mkdir, stat, rmtree) or `r/c/f` (lstat, open) -/
def EffectAt (r : RPath) (c : Comp) : Effect → Prop
  | .mkdir p => p = ⟨r.ds, r.comps ++ [c]⟩
  | .stat p => p = ⟨r.ds, r.comps ++ [c]⟩
  | .rmtree p => p = ⟨r.ds, r.comps ++ [c]⟩
  | .lstatEnd p => ∃ f, p = ⟨r.ds, r.comps ++ [c, f]⟩
  | .openf p _ => ∃ f, p = ⟨r.ds, r.comps ++ [c, f]⟩


/-- **ops_confined** (path level, unconditional): every file-system call of `exists`, `file_handle`
    (any mode) and `delete` is made on `r/c` or on `r/c/f` for one component `c`; a rejected operation
    has made no call at all, or only calls on these paths up to the point of rejection (see
    `file_handle_reject_only_mkdir`). -/
theorem ops_confined (fs : FS) (fuel : Nat) (sp : RPath) (key fname mode : List Char) (r : RPath)
    (hr : resolve fs fuel sp = .ok r) (hroot : r.comps ≠ []) (o : Outcome)
    (ho : o = opExists fs fuel sp key ∨ o = opFileHandle fs fuel sp key fname mode ∨ o = opDelete fs fuel sp key) :
    ∃ c, ∀ e ∈ o.effects, EffectAt r c e := by
  cases hk : keyToPath fs fuel sp key with
  | error e => exact ⟨[], by rw [(op_rejected hk fname mode ho).1]; nofun⟩
  | ok kp =>
    obtain ⟨c, hc⟩ := validate_direct_child fs fuel sp key kp r hr hroot hk
    -- every call is on the key path `kp = r/c` or on the file path `fp = r/c/f`
    have hkp : ∀ e, e = .mkdir kp ∨ e = .stat kp ∨ e = .rmtree kp → EffectAt r c e := by
      rintro e (rfl | rfl | rfl) <;> exact hc
    have hfp : ∀ fp, fp.parent = kp → ∀ e, e = .lstatEnd fp ∨ e = .openf fp mode → EffectAt r c e := by
      rintro fp hpar e (rfl | rfl) <;> exact child_of_child hc hpar
    refine ⟨c, fun e he => ?_⟩
    rcases ho with ho | ho | ho <;> subst ho
    · rw [(opExists_ok hk).1] at he
      exact hkp e (Or.inr (Or.inl (List.mem_singleton.mp he)))
    · rcases opFileHandle_ok hk fname mode rfl with
        ⟨h, -⟩ | ⟨fp, -, hpar, ⟨h, -⟩ | ⟨-, h, -⟩⟩ <;>
        simp only [h, List.mem_cons, List.not_mem_nil, or_false] at he
      · exact hkp e (Or.inl he)
      · exact he.elim (fun h => hkp e (Or.inl h)) (fun h => hfp fp hpar e (Or.inl h))
      · exact he.elim (fun h => hkp e (Or.inl h)) (hfp fp hpar e)
    · rcases opDelete_ok hk with ⟨h, -⟩ | ⟨h, -⟩ <;>
        simp only [h, List.mem_cons, List.not_mem_nil, or_false] at he
      · exact hkp e (Or.inr (Or.inl he))
      · exact hkp e (Or.inr he)

/-- a `file_handle` that is rejected before opening has touched at most the key directory it made -/
theorem file_handle_reject_only_mkdir (fs : FS) (fuel : Nat) (sp : RPath) (key fname mode : List Char)
    (hno : ∀ p m, Effect.openf p m ∉ (opFileHandle fs fuel sp key fname mode).effects) :
    (opFileHandle fs fuel sp key fname mode).touched = [] ∨
    ∃ kp, keyToPath fs fuel sp key = .ok kp ∧
      (opFileHandle fs fuel sp key fname mode).touched = touchOfMkdir (doMkdir fs kp) := by
  cases hk : keyToPath fs fuel sp key with
  | error e => exact Or.inl (op_rejected hk fname mode (Or.inr (Or.inl rfl))).2
  | ok kp =>
    refine Or.inr ⟨kp, rfl, ?_⟩
    rcases opFileHandle_ok hk fname mode rfl with
      ⟨-, ht⟩ | ⟨fp, -, -, ⟨-, ht⟩ | ⟨-, he, -⟩⟩
    · exact ht
    · exact ht
    · exact absurd (by simp [he]) (hno fp mode)

/-- **delete_only_key_dir**: `delete` makes no call but `stat(r/c)` and `rmtree(r/c)`, and the only
    node it can remove is the one `rmtree(r/c)` is applied to -/
theorem delete_only_key_dir (fs : FS) (fuel : Nat) (sp : RPath) (key : List Char) (r : RPath)
    (hr : resolve fs fuel sp = .ok r) (hroot : r.comps ≠ []) :
    ∃ c, (∀ e ∈ (opDelete fs fuel sp key).effects,
            e = .stat ⟨r.ds, r.comps ++ [c]⟩ ∨ e = .rmtree ⟨r.ds, r.comps ++ [c]⟩) ∧
         ((opDelete fs fuel sp key).touched = [] ∨
          (opDelete fs fuel sp key).touched = (doRmtree fs ⟨r.ds, r.comps ++ [c]⟩).1) := by
  cases hk : keyToPath fs fuel sp key with
  | error e =>
    obtain ⟨he, ht⟩ := op_rejected hk [] [] (Or.inr (Or.inr rfl))
    exact ⟨[], by rw [he]; nofun, Or.inl ht⟩
  | ok kp =>
    obtain ⟨c, hc⟩ := validate_direct_child fs fuel sp key kp r hr hroot hk
    refine ⟨c, ?_⟩
    rw [← hc]
    rcases opDelete_ok hk with ⟨he, ht⟩ | ⟨he, ht⟩ <;> simp [he, ht]

/-- **open_end_not_symlink** (unconditional, the repaired code): whenever `file_handle` opens a path,
    that path is a direct child of the key path and its last component is not a symlink in the tree
    as it is at that moment (after the `mkdir`) -/
theorem open_end_not_symlink (fs : FS) (fuel : Nat) (sp : RPath) (key fname mode : List Char)
    (fp : RPath) (m : List Char)
    (h : Effect.openf fp m ∈ (opFileHandle fs fuel sp key fname mode).effects) :
    ∃ kp, keyToPath fs fuel sp key = .ok kp ∧ fp.parent = kp ∧
      pathIsSymlink (fsAfterMkdir fs (doMkdir fs kp)) fp = .ok false := by
  cases hk : keyToPath fs fuel sp key with
  | error e => rw [(op_rejected hk fname mode (Or.inr (Or.inl rfl))).1] at h; cases h
  | ok kp =>
    refine ⟨kp, rfl, ?_⟩
    rcases opFileHandle_ok hk fname mode rfl with
      ⟨he, -⟩ | ⟨fp', -, hpar, ⟨he, -⟩ | ⟨hsym, he, -⟩⟩
    · simp [he] at h
    · simp [he] at h
    · simp only [he, List.mem_cons, List.not_mem_nil, or_false, Effect.openf.injEq, reduceCtorEq,
        false_or] at h
      rw [h.1]; exact ⟨hpar, hsym⟩

/-! ## `realpath` and symlinks

Full statement of DESIGN's `realpath_link_free`:
  `resolve fs fuel p = .ok q → LinkFree fs q.comps`
(no prefix of a resolved path, the path itself included, is a symlink).  It is FALSE
(`realpath_link_free_fails`): on a symlink loop `_joinrealpath` returns the rest of the path
unresolved, `normpath` then removes `loop/..` lexically and the follow-up `stat()` no longer sees the
loop.  Proved: the statement under the hypothesis that no loop was hit. -/

/-- `_joinrealpath` finished with `ok = True` (it met no symlink loop) -/
def NoLoopHit (fs : FS) (fuel : Nat) (p : RPath) : Prop :=
  ∃ r, jr fs fuel [] [] p.comps = .ok r ∧ r.ok = true

theorem realpath_link_free_partial (fs : FS) (fuel : Nat) (p q : RPath)
    (h : resolve fs fuel p = .ok q) (hn : NoLoopHit fs fuel p) :
    LinkFree fs q.comps ∧ NormalP q.comps ∧ q.ds = false := by
  obtain ⟨r, hr, hok⟩ := hn
  have hg := (jr_good fs fuel [] [] p.comps r (good_nil fs) (by intro q p hm; cases hm) hr).2 hok
  simp only [resolve, hr, normpath_normal r.path hg.2, hok, if_true] at h
  split at h
  · cases h
  · split at h
    · cases h
    · cases h
      exact ⟨hg.1, hg.2, rfl⟩

/-- the tree of the witnesses: `/s` the storage directory, `/s/k` a key directory holding a self-loop
    `l -> l` and `x -> /o`, `/o` a file outside -/
def fsW : FS :=
  [ ([['s']], .dir), ([['s'], ['k']], .dir), ([['s'], ['k'], ['l']], .link ['l']),
    ([['s'], ['k'], ['x']], .link ['/', 'o']), ([['o']], .file) ]

/-- witness of the negation of the unrestricted `realpath_link_free`: resolving `/s/k/l/../x` yields
    `/s/k/x`, which is a symlink (to the outside) -/
theorem realpath_link_free_fails :
    resolve fsW 5 ⟨false, [['s'], ['k'], ['l'], ['.', '.'], ['x']]⟩ = .ok ⟨false, [['s'], ['k'], ['x']]⟩ ∧
    optIsLink (lstat fsW [['s'], ['k'], ['x']]) = true := by decide +kernel

/-- the pre-repair `file_handle` (no `is_symlink` check) accepted key `k`, filename `l/../x`, mode `w`
    in that tree and wrote the outside file `/o` -/
theorem old_file_handle_escapes :
    (opFileHandleOld fsW 5 ⟨false, [['s']]⟩ ['k'] ['l', '/', '.', '.', '/', 'x'] ['w']).touched = [.write [['o']]] ∧
    (opFileHandleOld fsW 5 ⟨false, [['s']]⟩ ['k'] ['l', '/', '.', '.', '/', 'x'] ['w']).result = .ok .handle := by
  decide +kernel

/-- the repaired `file_handle` rejects it with a `StorageError` and touches nothing -/
theorem new_file_handle_rejects :
    (opFileHandle fsW 5 ⟨false, [['s']]⟩ ['k'] ['l', '/', '.', '.', '/', 'x'] ['w']).touched = [] ∧
    (opFileHandle fsW 5 ⟨false, [['s']]⟩ ['k'] ['l', '/', '.', '.', '/', 'x'] ['w']).result = .error .storage := by
  decide +kernel

/-! ## node level

Full statement (`ops_touch_confined`): for every tree, storage path, key, filename and mode, every node
that `exists` / `file_handle` / `delete` creates, writes or removes is `r/c` or `r/c/f` for one `c`
— where the touched node is computed by the kernel walk `kwalk`, which follows symlinks.
Proved with no hypothesis at all relative to the directory `R` the kernel reaches through `r`
(`delete_touches_real`, `file_handle_touches_real`), and as stated under one extra hypothesis,
`hR : NoLoopHit fs fuel sp` — resolving the *storage directory's own path* met no symlink loop (then `r`
is symlink-free by `realpath_link_free_partial`, so `R = r`).
Nothing is assumed about the key or the filename: since /repo commits a78c04e and becc08b the code
checks `is_symlink()` on both resolved paths, which closes the loop-fallback of `realpath`
(`realpath_link_free_fails`) on either side (`key_end_not_symlink`, `open_end_not_symlink`).
`LocalStorage.__init__` stores `storage_dir.resolve()`, a path without `.`/`..`; if that path later
runs into a symlink loop, `resolve()` raises `RuntimeError` in every run of the harness, but that the
loop-fallback can never be accepted for the storage path itself is not proved — hence the hypothesis.
Section "the storage root" at the end: the hypothesis is necessary for this conclusion
(`root_loop_witness`) and follows from "no prefix of the stored root is a symlink"
(`…_linkfree_root`, `…_ctor_partial`). -/

/-- an accepted key resolves to a path that `is_symlink()` answered `False` for (unconditional) -/
theorem key_end_not_symlink (fs : FS) (fuel : Nat) (sp : RPath) (key : List Char) (kp : RPath)
    (h : keyToPath fs fuel sp key = .ok kp) : pathIsSymlink fs kp = .ok false :=
  (keyToPath_ok h).notLink

theorem exists_touches_nothing (fs : FS) (fuel : Nat) (sp : RPath) (key : List Char) :
    (opExists fs fuel sp key).touched = [] := by
  cases hk : keyToPath fs fuel sp key with
  | error e => exact (op_rejected hk [] [] (Or.inl rfl)).2
  | ok kp => exact (opExists_ok hk).2

/-- **delete, NO hypothesis on the root**: whatever the stored root runs through (symlinks, loops,
    the `realpath` fallback), the only node `delete` can remove is the child `c` of the directory `R`
    that the kernel reaches through `storage_path.resolve()` -/
theorem delete_touches_real (fs : FS) (fuel : Nat) (sp : RPath) (key : List Char) (r : RPath)
    (hr : resolve fs fuel sp = .ok r) (hroot : r.comps ≠ []) :
    ∃ c, ∀ t ∈ (opDelete fs fuel sp key).touched,
      ∃ R, kwalk fs true linkBudget [] r.comps = .ok R ∧ lstat fs R = some .dir ∧ t = .remove (R ++ [c]) := by
  cases hkp : keyToPath fs fuel sp key with
  | error e => exact ⟨[], by rw [(op_rejected hkp [] [] (Or.inr (Or.inr rfl))).2]; nofun⟩
  | ok kp =>
    obtain ⟨c, hc⟩ := validate_direct_child fs fuel sp key kp r hr hroot hkp
    have hkc : kp.comps = r.comps ++ [c] := by rw [hc]
    have hcn := child_normal (keyToPath_ok hkp).resolved hkc
    refine ⟨c, ?_⟩
    rcases opDelete_ok hkp with ⟨-, ht⟩ | ⟨-, ht⟩ <;> rw [ht]
    · nofun
    · exact doRmtree_real hkc hcn

/-- **file_handle, NO hypothesis on the root**: with `R` the directory the kernel reaches through
    `storage_path.resolve()`, the only node `file_handle` can create is the directory `R/c` and the
    only node it can write is a direct child `R/c/f` of it — whatever symlinks or loops the stored
    root, the key or the filename run through (the `mkdir` in between is taken into account) -/
theorem file_handle_touches_real (fs : FS) (fuel : Nat) (sp : RPath) (key fname mode : List Char)
    (r : RPath) (hr : resolve fs fuel sp = .ok r) (hroot : r.comps ≠ []) :
    ∃ c, ∀ t ∈ (opFileHandle fs fuel sp key fname mode).touched,
      ∃ R, kwalk fs true linkBudget [] r.comps = .ok R ∧ lstat fs R = some .dir ∧
        (t = .createDir (R ++ [c]) ∨ ∃ f, t = .write (R ++ [c, f])) := by
  cases hkp : keyToPath fs fuel sp key with
  | error e =>
    exact ⟨[], by rw [(op_rejected hkp fname mode (Or.inr (Or.inl rfl))).2]; nofun⟩
  | ok kp =>
    obtain ⟨c, hc⟩ := validate_direct_child fs fuel sp key kp r hr hroot hkp
    have hkc : kp.comps = r.comps ++ [c] := by rw [hc]
    have hcn := child_normal (keyToPath_ok hkp).resolved hkc
    refine ⟨c, ?_⟩
    rcases mkdir_real hkc hcn (keyToPath_ok hkp).notLink with
      ⟨e, hfail⟩ | ⟨R, hR, hRd, hR', hnl', hmk⟩
    · simp [opFileHandle, hkp, hfail]
    · have hmk' : ∀ t ∈ touchOfMkdir (doMkdir fs kp), ∃ R, kwalk fs true linkBudget [] r.comps = .ok R ∧
          lstat fs R = some .dir ∧ (t = .createDir (R ++ [c]) ∨ ∃ f, t = .write (R ++ [c, f])) :=
        fun t ht => ⟨R, hR, hRd, Or.inl (hmk t ht)⟩
      rcases opFileHandle_ok hkp fname mode rfl with
        ⟨-, ht⟩ | ⟨fp, hfp, hpar, ⟨-, ht⟩ | ⟨hsym, -, ht⟩⟩ <;> rw [ht]
      · exact hmk'
      · exact hmk'
      · intro t htm
        rcases List.mem_append.mp htm with h1 | h1
        · exact hmk' t h1
        · -- the file is a child `f` of the directory `K` reached through `r/c` after the `mkdir`: `K = R/c`
          obtain ⟨f, hf⟩ := child_of_child hc hpar
          have hfc : fp.comps = (r.comps ++ [c]) ++ [f] := by rw [hf]; simp
          have hfn := child_normal hfp hfc
          obtain ⟨K, hK, _, htw⟩ := doOpen_real mode hfc hfn hsym t h1
          obtain ⟨R2, hR2, _, _, hK2⟩ := kwalk_snoc hcn hK
          cases hR'.symm.trans hR2
          exact ⟨R, hR, hRd, Or.inr ⟨f, by rw [htw, hK2 hnl']; simp⟩⟩

theorem delete_touches_partial (fs : FS) (fuel : Nat) (sp : RPath) (key : List Char) (r : RPath)
    (hr : resolve fs fuel sp = .ok r) (hroot : r.comps ≠ []) (hR : NoLoopHit fs fuel sp) :
    ∃ c, ∀ t ∈ (opDelete fs fuel sp key).touched, t = .remove (r.comps ++ [c]) := by
  obtain ⟨hlf, hnm, -⟩ := realpath_link_free_partial fs fuel sp r hr hR
  obtain ⟨c, h⟩ := delete_touches_real fs fuel sp key r hr hroot
  exact ⟨c, fun t ht => at_linkfree_path hlf hnm (h t ht)⟩

theorem file_handle_touches_partial (fs : FS) (fuel : Nat) (sp : RPath) (key fname mode : List Char)
    (r : RPath) (hr : resolve fs fuel sp = .ok r) (hroot : r.comps ≠ []) (hR : NoLoopHit fs fuel sp) :
    ∃ c, ∀ t ∈ (opFileHandle fs fuel sp key fname mode).touched,
      t = .createDir (r.comps ++ [c]) ∨ ∃ f, t = .write (r.comps ++ [c, f]) := by
  obtain ⟨hlf, hnm, -⟩ := realpath_link_free_partial fs fuel sp r hr hR
  obtain ⟨c, h⟩ := file_handle_touches_real fs fuel sp key fname mode r hr hroot
  exact ⟨c, fun t ht => at_linkfree_path hlf hnm (h t ht)⟩

/-! non-vacuity: in the same tree (it holds a symlink to the outside) the hypotheses of the theorems
are satisfiable and an accepted `file_handle` performs exactly `mkdir /s/k`, `lstat /s/k/f`,
`open /s/k/f`; a key that is a symlink to the outside is rejected. -/
example : resolve fsW 5 ⟨false, [['s']]⟩ = .ok ⟨false, [['s']]⟩ ∧ (⟨false, [['s']]⟩ : RPath).comps ≠ [] := by decide +kernel
example : NoLoopHit fsW 5 ⟨false, [['s']]⟩ := ⟨⟨[['s']], true, false, []⟩, by decide +kernel⟩
example :
    (opFileHandle fsW 5 ⟨false, [['s']]⟩ ['k'] ['f'] ['w']).effects =
      [.mkdir ⟨false, [['s'], ['k']]⟩, .lstatEnd ⟨false, [['s'], ['k'], ['f']]⟩,
       .openf ⟨false, [['s'], ['k'], ['f']]⟩ ['w']] ∧
    (opFileHandle fsW 5 ⟨false, [['s']]⟩ ['k'] ['f'] ['w']).touched = [.write [['s'], ['k'], ['f']]] := by decide +kernel
example :
    (opDelete (([['s'], ['e']], .link ['/', 'o']) :: fsW) 5 ⟨false, [['s']]⟩ ['e']).result = .error .storage ∧
    (opDelete fsW 5 ⟨false, [['s']]⟩ ['k']).touched = [.remove [['s'], ['k']]] := by decide +kernel
example : (opExists fsW 5 ⟨false, [['s']]⟩ ['.', '.']).result = .error .storage := by decide +kernel

/-! ## the storage root

`LocalStorage.__init__` stores `self._storage_path = storage_dir.resolve()` once; every operation
re-resolves `self._storage_path / key` and compares with `self._storage_path.resolve()`. -/

/-- the tree of `root_loop_witness`: the stored root `/s` is a symlink whose target `l/../t` runs
    through the self-loop `/l`; `/t` is a symlink to the directory `/o`, which holds `k` -/
def fsL : FS :=
  [ ([['s']], .link ['l', '/', '.', '.', '/', 't']), ([['l']], .link ['l']),
    ([['t']], .link ['/', 'o']), ([['o']], .dir), ([['o'], ['k']], .dir) ]

/-- WITNESS that `NoLoopHit` cannot simply be dropped from `delete_touches_partial`: with the stored
    root `/s`, `storage_path.resolve()` answers `/t` (loop fallback + `normpath`; the follow-up `stat`
    of `/t` succeeds), the key `k` is accepted with key path `/t/k`, and `rmtree('/t/k')` removes the
    node `/o/k` — not the node `r/k = /t/k`. (It IS the child `k` of the directory the kernel reaches
    through `r`: `delete_touches_real`.) Not reachable through `LocalStorage.__init__` in an unchanged
    tree: no `storage_dir` resolves to `/s` there, because the `stat('/s')` that `Path.resolve` ends
    with fails with `ELOOP` = `RuntimeError`. -/
theorem root_loop_witness :
    resolve fsL 5 ⟨false, [['s']]⟩ = .ok ⟨false, [['t']]⟩ ∧
    ¬ NoLoopHit fsL 5 ⟨false, [['s']]⟩ ∧
    (opDelete fsL 5 ⟨false, [['s']]⟩ ['k']).touched = [.remove [['o'], ['k']]] ∧
    kwalk fsL true linkBudget [] [['t']] = .ok [['o']] := by
  refine ⟨by decide +kernel, ?_, by decide +kernel, by decide +kernel⟩
  rintro ⟨r, hr, hok⟩
  have h : jr fsL 5 [] [] [['s']] = .ok ⟨[['l'], ['.', '.'], ['t']], false, false, [([['l']], none), ([['s']], none)]⟩ := by
    decide +kernel
  rw [h] at hr
  cases hr
  cases hok

/-- a stored root that is a normal path with no symlink among its prefixes — a property of the tree,
    not of the run of `realpath` — resolves to itself and meets no loop -/
theorem root_linkfree_no_loop (fs : FS) (fuel : Nat) (sp r : RPath) (hr : resolve fs fuel sp = .ok r)
    (hl : LinkFree fs sp.comps) (hn : NormalP sp.comps) : NoLoopHit fs fuel sp ∧ r.comps = sp.comps :=
  noLoop_of_linkFree hr hl hn

/-- what the constructor establishes: if `storage_dir.resolve()` met no loop when the storage was
    constructed (tree `fs0`) and no prefix of the stored root has been replaced since (`lstat` of every
    prefix unchanged — nothing is assumed about what is inside the root), the stored root is a
    symlink-free normal path in the current tree -/
theorem ctor_root_link_free (fs0 fs : FS) (fuel0 : Nat) (dir sp : RPath)
    (h0 : resolve fs0 fuel0 dir = .ok sp) (hn0 : NoLoopHit fs0 fuel0 dir)
    (hframe : ∀ q, q <+: sp.comps → lstat fs q = lstat fs0 q) :
    LinkFree fs sp.comps ∧ NormalP sp.comps := by
  obtain ⟨hl, hn, _⟩ := realpath_link_free_partial fs0 fuel0 dir sp h0 hn0
  exact ⟨fun q hq => by rw [hframe q hq]; exact hl q hq, hn⟩

theorem delete_touches_linkfree_root (fs : FS) (fuel : Nat) (sp : RPath) (key : List Char) (r : RPath)
    (hr : resolve fs fuel sp = .ok r) (hroot : sp.comps ≠ [])
    (hl : LinkFree fs sp.comps) (hn : NormalP sp.comps) :
    ∃ c, ∀ t ∈ (opDelete fs fuel sp key).touched, t = .remove (sp.comps ++ [c]) := by
  obtain ⟨hR, he⟩ := root_linkfree_no_loop fs fuel sp r hr hl hn
  rw [← he] at hroot ⊢
  exact delete_touches_partial fs fuel sp key r hr hroot hR

theorem file_handle_touches_linkfree_root (fs : FS) (fuel : Nat) (sp : RPath) (key fname mode : List Char)
    (r : RPath) (hr : resolve fs fuel sp = .ok r) (hroot : sp.comps ≠ [])
    (hl : LinkFree fs sp.comps) (hn : NormalP sp.comps) :
    ∃ c, ∀ t ∈ (opFileHandle fs fuel sp key fname mode).touched,
      t = .createDir (sp.comps ++ [c]) ∨ ∃ f, t = .write (sp.comps ++ [c, f]) := by
  obtain ⟨hR, he⟩ := root_linkfree_no_loop fs fuel sp r hr hl hn
  rw [← he] at hroot ⊢
  exact file_handle_touches_partial fs fuel sp key fname mode r hr hroot hR

/-- `delete`, every hypothesis about the CONSTRUCTOR-time tree `fs0` (+ the frame condition): the
    only node removed is `root/c`.  Full statement: the same without `hn0` — open, see the header. -/
theorem delete_touches_ctor_partial (fs0 fs : FS) (fuel0 fuel : Nat) (dir sp : RPath) (key : List Char)
    (r : RPath) (h0 : resolve fs0 fuel0 dir = .ok sp) (hn0 : NoLoopHit fs0 fuel0 dir)
    (hframe : ∀ q, q <+: sp.comps → lstat fs q = lstat fs0 q)
    (hr : resolve fs fuel sp = .ok r) (hroot : sp.comps ≠ []) :
    ∃ c, ∀ t ∈ (opDelete fs fuel sp key).touched, t = .remove (sp.comps ++ [c]) := by
  obtain ⟨hl, hn⟩ := ctor_root_link_free fs0 fs fuel0 dir sp h0 hn0 hframe
  exact delete_touches_linkfree_root fs fuel sp key r hr hroot hl hn

theorem file_handle_touches_ctor_partial (fs0 fs : FS) (fuel0 fuel : Nat) (dir sp : RPath)
    (key fname mode : List Char) (r : RPath) (h0 : resolve fs0 fuel0 dir = .ok sp)
    (hn0 : NoLoopHit fs0 fuel0 dir) (hframe : ∀ q, q <+: sp.comps → lstat fs q = lstat fs0 q)
    (hr : resolve fs fuel sp = .ok r) (hroot : sp.comps ≠ []) :
    ∃ c, ∀ t ∈ (opFileHandle fs fuel sp key fname mode).touched,
      t = .createDir (sp.comps ++ [c]) ∨ ∃ f, t = .write (sp.comps ++ [c, f]) := by
  obtain ⟨hl, hn⟩ := ctor_root_link_free fs0 fs fuel0 dir sp h0 hn0 hframe
  exact file_handle_touches_linkfree_root fs fuel sp key fname mode r hr hroot hl hn

/-- in the tree of `root_loop_witness` (stored root `/s`, `R = /o`): `file_handle('n','f','w')` creates
    `/o/n = R/n` and is then rejected (the filename resolves to `/o/n/f`, whose parent is not the
    unresolved key path `/t/n`) -/
example : (opFileHandle fsL 5 ⟨false, [['s']]⟩ ['n'] ['f'] ['w']).touched = [.createDir [['o'], ['n']]] ∧
    (opFileHandle fsL 5 ⟨false, [['s']]⟩ ['n'] ['f'] ['w']).result = .error .storage := by decide +kernel

/-- in `root_loop_witness`: `R = /o`, the node removed is `R/k` -/
example : ∃ R, kwalk fsL true linkBudget [] [['t']] = .ok R ∧ lstat fsL R = some .dir ∧
    (opDelete fsL 5 ⟨false, [['s']]⟩ ['k']).touched = [.remove (R ++ [['k']])] :=
  ⟨[['o']], root_loop_witness.2.2.2, by decide +kernel, root_loop_witness.2.2.1⟩

/-- non-vacuity of the `…_linkfree_root` / `…_ctor_partial` hypotheses in the tree `fsW` (root `/s`) -/
example : LinkFree fsW [['s']] ∧ NormalP [['s']] :=
  have h := realpath_link_free_partial fsW 5 ⟨false, [['s']]⟩ ⟨false, [['s']]⟩ (by decide +kernel)
    ⟨⟨[['s']], true, false, []⟩, by decide +kernel⟩
  ⟨h.1, h.2.1⟩

end Lt.Props.C18
