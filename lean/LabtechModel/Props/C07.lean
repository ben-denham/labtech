import LabtechModel.Proofs.ParamsCache
import LabtechModel.Proofs.DumpsInj
import LabtechModel.Proofs.ParamsExamples
/-!
# C07 — Cache keys are deterministic and distinguish every distinct task

Model: `Lt.Params` (`Model/Params.lean`).  `cacheKey sha1 fmt t` is a pure function of the task's
class and parameter values, so "the same key in every process and session" holds in the model by
construction; that the real `cache_key` *is* this function (in this and in freshly started
interpreters with other hash seeds, after pickling, after reconstruction) is what the correspondence
check of `harness/props/c07.py` establishes on every run.

That `json.dumps` is injective on the documents `serTask` produces enters the first theorems as the
explicit hypothesis `hdumps` (the harness checks `json.loads(pre-image)` type-exactly against the real
serialised document for every generated tree); the second half of the file discharges it from
`Proofs/DumpsInj.lean`.  Trusted, not proved: SHA-1 does not collide on the inputs at hand (explicit
hypothesis `hsha`).
-/
namespace Lt.Params.C07
open Lt.Params

/-
Full statement (FALSE, see `serValue_collision` / `cacheKey_collision` below):
  ∀ t u, serTask t = serTask u → t = u
-/
/-- On well-formed parameter trees (module-level classes, no dict parameter with a truthy `_is_task` /
`_is_enum` entry, no field called `_is_task` / `__class__`) the serialised document determines the
task: its type (module and qualname), every parameter at every depth, each scalar's *type*
(`1`, `1.0`, `true`, `"1"` stay apart), enum class and member, nested tasks. -/
theorem serTask_injective_partial (t u : Task) (ht : wfTask t = true) (hu : wfTask u = true)
    (h : serTask t = serTask u) : t = u :=
  serTask_injective t u ht hu h

theorem serValue_injective_partial (v w : Value) (hv : wfValue v = true) (hw : wfValue w = true)
    (h : serValue v = serValue w) : v = w :=
  serValue_injective v w hv hw h

/-- the task `m.Leaf(x=1)` as a parameter -/
def witnessTask : Value := .task (.mk ⟨"m", "Leaf"⟩ [("x", .scalar (.int 1))])
/-- the dict `{'_is_task': True, '__class__': 'm.Leaf', 'x': 1}` as a parameter -/
def witnessDict : Value :=
  .dict [("_is_task", .scalar (.bool true)), ("__class__", .scalar (.str "m.Leaf")), ("x", .scalar (.int 1))]

/-- KNOWN FINDING F07 (D10): without `wfValue` injectivity is false — a dict that spells out a
serialised task serialises exactly like the task. -/
theorem serValue_collision : witnessTask ≠ witnessDict ∧ serValue witnessTask = serValue witnessDict :=
  ⟨(by intro h; cases h), rfl⟩

/-- … hence two different tasks of one type share their sha1 pre-image and their key, whatever sha1 is. -/
theorem cacheKey_collision (sha1 : String → String) (fmt : CacheFmt) (c : ClassRef) :
    Task.mk c [("p", witnessTask)] ≠ Task.mk c [("p", witnessDict)]
    ∧ cacheKey sha1 fmt (.mk c [("p", witnessTask)]) = cacheKey sha1 fmt (.mk c [("p", witnessDict)]) := by
  constructor
  · intro h
    injection h with _ h
    injection h with h _
    injection h with _ h
    exact serValue_collision.1 h
  · have : serTask (.mk c [("p", witnessTask)]) = serTask (.mk c [("p", witnessDict)]) := by
      simp only [serTask, serFields, serValue_collision.2]
    simp only [cacheKey, cacheKeyPre, this, Task.cls]

/-- the collision needs an ill-formed tree: the witness dict is exactly what `wfValue` excludes -/
example : wfValue witnessTask = true ∧ wfValue witnessDict = false := by decide +kernel

/-- `module ++ "." ++ qualname` determines module and qualname of module-level classes
(same-named classes in different modules, and prefix-named classes, have different class strings) -/
theorem classRef_injective (c₁ c₂ : ClassRef) (h₁ : dotFree c₁.qualname = true) (h₂ : dotFree c₂.qualname = true)
    (h : c₁.ser = c₂.ser) : c₁ = c₂ :=
  Option.some.inj (by rw [← parseClass_ser c₁ h₁, h, parseClass_ser c₂ h₂])

/-- the key is `prefix ++ qualname ++ "__" ++ sha1(pre-image)`: two keys of one cache format are equal
exactly when the qualnames are equal and the digests are equal -/
theorem key_parts (sha1 : String → String) (hlen : ∀ x, (sha1 x).toList.length = 40)
    (fmt : CacheFmt) (h : fmt.isNull = false) (t u : Task) :
    cacheKey sha1 fmt t = cacheKey sha1 fmt u
      ↔ t.cls.qualname = u.cls.qualname ∧ sha1 (cacheKeyPre t) = sha1 (cacheKeyPre u) := by
  constructor
  · intro e
    have e' := congrArg String.toList e
    rw [cacheKey_toList sha1 fmt h, cacheKey_toList sha1 fmt h] at e'
    have e2 := List.append_cancel_left e'
    have := List.append_inj' e2 (by simp [hlen])
    refine ⟨String.toList_inj.mp this.1, ?_⟩
    have h3 := this.2
    simp only [List.cons.injEq, true_and] at h3
    exact String.toList_inj.mp h3
  · rintro ⟨hq, hs⟩
    simp [cacheKey, hq, hs]

/-
Full statement: distinct tasks get distinct keys.  False without `wfTask` (F07), and it rests on two
facts outside the model, spelled out as hypotheses.
-/
/-- distinct well-formed tasks get distinct keys, up to a SHA-1 collision on their two pre-images
(`hsha`) and given that `json.dumps` separates their two documents (`hdumps`; discharged in the second half of the
file) -/
theorem cacheKey_injective_partial (sha1 : String → String) (hlen : ∀ x, (sha1 x).toList.length = 40)
    (fmt : CacheFmt) (h : fmt.isNull = false) (t u : Task) (ht : wfTask t = true) (hu : wfTask u = true)
    (hsha : sha1 (cacheKeyPre t) = sha1 (cacheKeyPre u) → cacheKeyPre t = cacheKeyPre u)
    (hdumps : dumps (serTask t) = dumps (serTask u) → serTask t = serTask u)
    (hk : cacheKey sha1 fmt t = cacheKey sha1 fmt u) : t = u :=
  serTask_injective t u ht hu (hdumps (hsha ((key_parts sha1 hlen fmt h t u).mp hk).2))

/-- a raw list and the tuple of the same items are the same parameter -/
theorem normalize_list_tuple (items : List Raw) : normalize (.list items) = normalize (.tuple items) := by
  simp only [normalize]

/-- a raw dict and the frozendict of the same items are the same parameter -/
theorem normalize_dict_frozendict (items : List (RawKey × Raw)) : normalize (.dict items) = normalize (.fdict items) := by
  simp only [normalize]

/-- … at every depth: respelling any lists as tuples and dicts as frozendicts changes nothing -/
theorem normalize_respelled (r : Raw) : normalize (freeze r) = normalize r :=
  normalize_freeze r

/-- two constructor calls whose arguments differ only in list/tuple and dict/frozendict spelling give
the same task and the same key -/
theorem construct_respelled {D : Type} (env : Env D) (cls : ClassRef) (k : String) (r₁ r₂ : Raw)
    (h : freeze r₁ = freeze r₂) : construct env cls [(k, r₁)] = construct env cls [(k, r₂)] := by
  have : normalize r₁ = normalize r₂ := by rw [← normalize_freeze r₁, h, normalize_freeze r₂]
  simp [construct, normFields, this]

/-- every key of a module-level task type (qualname = an identifier) passes the character test of
`validate_file_path_key` as generated from the source (`Generated.disallowedKeyChars`), and is not empty -/
theorem key_accepted_by_storage (sha1 : String → String) (hhex : ∀ x, ∀ c ∈ (sha1 x).toList, hexChar c = true)
    (fmt : CacheFmt) (hp : ∀ c ∈ fmt.kprefix.toList, keyCharOk c = true)
    (t : Task) (hq : ∀ c ∈ t.cls.qualname.toList, keyCharOk c = true) :
    cacheKey sha1 fmt t ≠ "" ∧ ∀ c ∈ (cacheKey sha1 fmt t).toList, c ∉ Lt.Generated.disallowedKeyChars := by
  by_cases hn : fmt.isNull = true
  · have : cacheKey sha1 fmt t = "null" := by simp [cacheKey, hn]
    rw [this]
    refine ⟨by decide, ?_⟩
    intro c hc
    apply keyCharOk_allowed
    have hall : "null".toList.all keyCharOk = true := by decide +kernel
    exact List.all_eq_true.mp hall c hc
  · have hn' : fmt.isNull = false := by simpa using hn
    constructor
    · intro he
      have := congrArg String.toList he
      rw [cacheKey_toList sha1 fmt hn'] at this
      simp at this
    · intro c hc
      rw [cacheKey_toList sha1 fmt hn'] at hc
      apply keyCharOk_allowed
      simp only [List.mem_append, List.mem_cons] at hc
      rcases hc with hc | hc | hc | hc | hc
      · exact hp c hc
      · exact hq c hc
      · subst hc; decide
      · subst hc; decide
      · exact hexChar_ok c (hhex _ c hc)

/-- `PickleCache.KEY_PREFIX` as generated from the source (`Generated.pickleKeyPrefix`) satisfies the prefix
hypothesis -/
theorem pickle_prefix_ok : ∀ c ∈ Lt.Generated.pickleKeyPrefix.toList, keyCharOk c = true := by decide +kernel

/-- the key travels through pickling unchanged -/
theorem key_after_pickle {D : Type} (env : Env D) (o : TaskObj D) :
    ∃ o', pickleRoundTrip env o = .ok o' ∧ o'.cacheKey = o.cacheKey :=
  ⟨_, pickleRoundTrip_eq env o, rfl⟩

/-- a task reconstructed by `cached_tasks` has the key it was stored under (which is the key the
original task object had when it was saved) -/
theorem key_after_reconstruction {D : Type} (env : Env D) (s : Saved)
    (hfmt : ∀ c, (env.cacheOf c).isNull = false → (env.cacheOf c).name = s.fmt.name → env.cacheOf c = s.fmt)
    (h : sameFormat env s = true) :
    (expected env s).cacheKey = cacheKey env.sha1 s.fmt s.t := by
  rw [expected_key env s hfmt h]; rfl

/-! non-vacuity: a concrete nested task (`Proofs/ParamsExamples.lean`) is well-formed, and differs from its
neighbours in the serialisation exactly as the theorem says -/

example : wfTask exBox = true ∧ wfTask exLeaf1 = true ∧ wfTask exLeafTrue = true ∧ wfTask exLeaf2 = true := by decide +kernel
example : cacheKeyPre exLeaf1 = "{\"_is_task\": true, \"__class__\": \"ptasks.Leaf\", \"x\": 1}" := exLeaf1_pre
example : cacheKeyPre exLeaf1 ≠ cacheKeyPre exLeafTrue ∧ cacheKeyPre exLeaf1 ≠ cacheKeyPre exLeaf2 := by
  rw [exLeaf1_pre]; decide +kernel
example : ∀ c ∈ "Experiment".toList, keyCharOk c = true := by decide +kernel

end Lt.Params.C07

/-! ## `json.dumps` injectivity: proved

`Proofs/DumpsInj.lean` (+ `DumpsInjNum.lean`, `DumpsInjStr.lean`) proves that the model's `json.dumps`
(`dumps`: default arguments, `ensure_ascii=True`, separators `", "` / `": "`) is injective on every
document whose `.float` leaves carry a float token (`Json.wfTokens`; `wfFloatTok` is a decidable
grammar that accepts every token `float.__repr__` / `NaN` / `Infinity` / `-Infinity`).  The model's
`.float` holds the token *text*, so this is a well-formedness condition of the model's inputs, not a
restriction on Python floats; without it the statement is false in the model (`dumps_needs_wfTokens`).
Strings are unrestricted: every Lean `String` is a sequence of Unicode scalar values.  That IS a
restriction with respect to Python strs, which may hold lone surrogates, and there injectivity really
fails (a high + a low surrogate print like the astral character they spell) — KNOWN FINDING F07c.

Below, the theorems above that take `hdumps`, with that hypothesis discharged for tasks that satisfy the
decidable `Task.wfFloats`; SHA-1 collision-freeness on the two pre-images (`hsha`) is the one named
assumption that remains. -/
namespace Lt.Params.C07
open Lt.Params

/-- `json.dumps` is injective: two documents (any strings, any depth, any lengths, objects as
association lists with their order and repetitions) whose float leaves carry float tokens and that
print the same text are the same document -/
theorem dumps_injective_proved (a b : Json) (wa : a.wfTokens = true) (wb : b.wfTokens = true)
    (h : dumps a = dumps b) : a = b :=
  dumps_injective a b wa wb h

/-- a task whose float parameters carry float tokens serialises to a document with float tokens -/
theorem wfFloats_wfTokens (t : Task) (h : t.wfFloats = true) : (serTask t).wfTokens = true :=
  serTask_wfTokens t h

/-- the `hdumps` hypothesis of `cacheKey_injective_partial` holds for any two such tasks -/
theorem hdumps_proved (t u : Task) (ft : t.wfFloats = true) (fu : u.wfFloats = true) :
    dumps (serTask t) = dumps (serTask u) → serTask t = serTask u :=
  dumps_injective _ _ (serTask_wfTokens t ft) (serTask_wfTokens u fu)

/-- WITNESS that `wfTokens` is needed in the model: an ill-formed "float token" containing a
delimiter prints like two array elements.  No Python float prints such a token. -/
theorem dumps_needs_wfTokens :
    Json.arr [.float "1, 2"] ≠ Json.arr [.int 1, .int 2] ∧
    dumps (.arr [.float "1, 2"]) = dumps (.arr [.int 1, .int 2]) ∧
    (Json.arr [.float "1, 2"]).wfTokens = false ∧ (Json.arr [.int 1, .int 2]).wfTokens = true := by
  refine ⟨fun h => ?_, by decide +kernel, by decide +kernel, by decide +kernel⟩
  injection h with h
  injection h with h _
  cases h

/-- the sha1 pre-image (the text `cache_key` hashes) determines a well-formed task: its type, every
parameter at every depth, every scalar's type.  No assumption outside the model. -/
theorem cacheKeyPre_injective_partial_dumps_proved (t u : Task) (ht : wfTask t = true) (hu : wfTask u = true)
    (ft : t.wfFloats = true) (fu : u.wfFloats = true) (h : cacheKeyPre t = cacheKeyPre u) : t = u :=
  serTask_injective t u ht hu (hdumps_proved t u ft fu h)

/-
Full statement: distinct tasks get distinct keys.  False without `wfTask` (F07); `hsha` (no SHA-1
collision on the two pre-images) is a fact outside the model.  `ft` / `fu` only say that the model's
float leaves hold float tokens.
-/
/-- `cacheKey_injective_partial` with the `json.dumps` assumption proved: distinct well-formed tasks
get distinct keys, up to a SHA-1 collision on their two pre-images (`hsha`) -/
theorem cacheKey_injective_partial_dumps_proved (sha1 : String → String)
    (hlen : ∀ x, (sha1 x).toList.length = 40)
    (fmt : CacheFmt) (h : fmt.isNull = false) (t u : Task) (ht : wfTask t = true) (hu : wfTask u = true)
    (ft : t.wfFloats = true) (fu : u.wfFloats = true)
    (hsha : sha1 (cacheKeyPre t) = sha1 (cacheKeyPre u) → cacheKeyPre t = cacheKeyPre u)
    (hk : cacheKey sha1 fmt t = cacheKey sha1 fmt u) : t = u :=
  cacheKey_injective_partial sha1 hlen fmt h t u ht hu hsha (hdumps_proved t u ft fu) hk

/-- the same, read as the property states it: two distinct tasks never share a key -/
theorem distinct_tasks_distinct_keys_partial_dumps_proved (sha1 : String → String)
    (hlen : ∀ x, (sha1 x).toList.length = 40)
    (fmt : CacheFmt) (h : fmt.isNull = false) (t u : Task) (ht : wfTask t = true) (hu : wfTask u = true)
    (ft : t.wfFloats = true) (fu : u.wfFloats = true)
    (hsha : sha1 (cacheKeyPre t) = sha1 (cacheKeyPre u) → cacheKeyPre t = cacheKeyPre u)
    (hne : t ≠ u) : cacheKey sha1 fmt t ≠ cacheKey sha1 fmt u :=
  fun hk => hne (cacheKey_injective_partial_dumps_proved sha1 hlen fmt h t u ht hu ft fu hsha hk)

/-! non-vacuity -/

example : wfFloatTok "1.5" = true ∧ wfFloatTok "-0.0" = true ∧ wfFloatTok "1e+16" = true ∧
    wfFloatTok "1.7976931348623157e+308" = true ∧ wfFloatTok "NaN" = true ∧
    wfFloatTok "-Infinity" = true ∧ wfFloatTok "5e-324" = true := by decide +kernel
example : wfFloatTok "15" = false ∧ wfFloatTok "" = false ∧ wfFloatTok "1,2" = false := by decide +kernel

/-- the earlier examples of this file have well-formed floats (`exBox` holds the float `1.0`) -/
example : exBox.wfFloats = true ∧ exLeaf1.wfFloats = true ∧ (serTask exBox).wfTokens = true := by decide +kernel

theorem exSha_len (x : String) : (exSha x).toList.length = 40 := by
  simp only [exSha, String.toList_ofList, List.length_append, List.length_replicate]
  have : x.length % 41 < 41 := Nat.mod_lt _ (by decide)
  omega

example : wfTask exF1 = true ∧ wfTask exF2 = true ∧ exF1.wfFloats = true ∧ exF2.wfFloats = true := by decide +kernel
example : cacheKeyPre exF1 = "{\"_is_task\": true, \"__class__\": \"ptasks.Leaf\", \"x\": 1.5}" := exF1_pre

/-- a concrete two-task instance of `distinct_tasks_distinct_keys_partial_dumps_proved`: every
hypothesis holds (the stand-in digest does not collide on the two pre-images), so the keys differ -/
example : cacheKey exSha ⟨"PickleCache", "pickle__", false⟩ exF1 ≠
    cacheKey exSha ⟨"PickleCache", "pickle__", false⟩ exF2 :=
  distinct_tasks_distinct_keys_partial_dumps_proved exSha exSha_len _ rfl exF1 exF2 (by decide +kernel)
    (by decide +kernel) (by decide +kernel) (by decide +kernel) exF_sha (by decide +kernel)

end Lt.Params.C07
