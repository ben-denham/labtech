import LabtechModel.Proofs.ParamsCache
import LabtechModel.Proofs.ClassRes
/-!
# C09 — cached_tasks reconstructs every cached task faithfully

Model: `deValue` / `deTask` (the deserialiser: it recurses into lists and dicts and hands
the result to the task constructor, which normalises), `loadTask` (`load_metadata` prefix and
cache-class checks, `load_task`'s `isinstance` check), `cachedTasks` (key × type loop with its
`break`).  Types are modelled without inheritance.  A store is the list of entries written by
`BaseCache.save`, each by some cache format (`Saved`).
-/
namespace Lt.Params.C09
open Lt.Params

/-- `deserialize_task(serialize_task(t))` rebuilds exactly `t` — for every well-formed `t` whose classes
the registry can import with the same field / member names (any nesting of scalars, enums, tuples,
dicts and tasks). -/
theorem deTask_serTask (reg : Reg) (t : Task) (h : wfTask t = true) (ht : TypedT reg t) :
    deTask reg (serTask t) = .ok t :=
  Lt.Params.deTask_serTask reg t h ht

/-- what the deserialiser itself returns for a nested value: lists and plain dicts (which the
constructor then freezes), nested tasks fully rebuilt -/
theorem deValue_serValue_thaw (reg : Reg) (v : Value) (h : wfValue v = true) (ht : TypedV reg v) :
    deValue reg (serValue v) = .ok (thaw v) ∧ normalize (thaw v) = .ok v :=
  ⟨deValue_serValue reg v h ht, normalize_thaw v⟩

/-- **Exactness.** For every store written by saves of well-formed tasks — any mix of types and cache
formats — and every list of requested types, `cached_tasks` returns, in store order, exactly the
entries whose task's type is requested and whose type's cache is the format that wrote the entry:
each once, as a task object equal to the original (`value`), with the key recomputed by the
constructor, the stored result meta, and no results map / context.
Hypothesis `hfmt`: a cache class name denotes one cache format. -/
theorem cached_tasks_exact {D : Type} (env : Env D) (types : List ClassRef) (saved : List Saved)
    (hwf : ∀ s ∈ saved, wfTask s.t = true ∧ TypedT env.reg s.t)
    (hnn : ∀ s ∈ saved, s.fmt.isNull = false)
    (hfmt : ∀ s ∈ saved, ∀ c, (env.cacheOf c).isNull = false → (env.cacheOf c).name = s.fmt.name → env.cacheOf c = s.fmt) :
    cachedTasks env types (saved.map (Saved.entry env.sha1))
      = .ok ((saved.filter (wanted env types)).map (expected env)) := by
  induction saved with
  | nil => simp [cachedTasks]
  | cons s rest ih =>
    have ih := ih (fun x hx => hwf x (List.mem_cons_of_mem _ hx)) (fun x hx => hnn x (List.mem_cons_of_mem _ hx))
      (fun x hx => hfmt x (List.mem_cons_of_mem _ hx))
    have h1 := hwf s List.mem_cons_self
    have ht := tryTypes_entry env s h1.1 h1.2 (hnn s List.mem_cons_self) (hfmt s List.mem_cons_self) types
    simp only [List.map_cons, cachedTasks, ht]
    cases hw : wanted env types s <;> simp [ih, hw]

/-- the returned tasks are the stored ones -/
theorem cached_tasks_values {D : Type} (env : Env D) (types : List ClassRef) (saved : List Saved)
    (hwf : ∀ s ∈ saved, wfTask s.t = true ∧ TypedT env.reg s.t)
    (hnn : ∀ s ∈ saved, s.fmt.isNull = false)
    (hfmt : ∀ s ∈ saved, ∀ c, (env.cacheOf c).isNull = false → (env.cacheOf c).name = s.fmt.name → env.cacheOf c = s.fmt) :
    ∃ os, cachedTasks env types (saved.map (Saved.entry env.sha1)) = .ok os
      ∧ os.map (fun o => (o.value, o.resultMeta)) = (saved.filter (wanted env types)).map (fun s => (s.t, some s.rm)) := by
  refine ⟨_, cached_tasks_exact env types saved hwf hnn hfmt, ?_⟩
  simp [expected, mkObj, Function.comp_def]

/-- a returned task has the key of the entry it came from, so running it finds that entry
(`is_cached` is `storage.exists(task.cache_key)`) -/
theorem returned_key_is_stored_key {D : Type} (env : Env D) (types : List ClassRef) (s : Saved)
    (hfmt : ∀ c, (env.cacheOf c).isNull = false → (env.cacheOf c).name = s.fmt.name → env.cacheOf c = s.fmt)
    (h : wanted env types s = true) : (expected env s).cacheKey = (s.entry env.sha1).key := by
  simp only [wanted, Bool.and_eq_true] at h
  exact expected_key env s hfmt h.2

/-- **No leak between types**, whatever the names: an entry of type `A` is never returned for a
different type `B` — also when `B`'s qualname is a prefix of `A`'s, so that the `startswith` test of
`load_metadata` lets it through (`Exp` / `Experiment`), and also for a same-named class of another module. -/
theorem other_type_never_loads {D : Type} (env : Env D) (s : Saved) (hwf : wfTask s.t = true)
    (hty : TypedT env.reg s.t) (ty : ClassRef) (hne : ty ≠ s.t.cls) :
    loadTask env ty (s.entry env.sha1) = .notFound :=
  loadTask_other env s hwf hty ty hne

/-- an entry written by another cache format than the type's is not returned -/
theorem other_format_not_returned {D : Type} (env : Env D) (types : List ClassRef) (s : Saved)
    (hwf : wfTask s.t = true) (hty : TypedT env.reg s.t) (hnn : s.fmt.isNull = false)
    (hfmt : ∀ c, (env.cacheOf c).isNull = false → (env.cacheOf c).name = s.fmt.name → env.cacheOf c = s.fmt)
    (hother : (env.cacheOf s.t.cls).name ≠ s.fmt.name) :
    cachedTasks env types [s.entry env.sha1] = .ok [] := by
  have := cached_tasks_exact env types [s] (by simpa using ⟨hwf, hty⟩) (by simpa using hnn) (by simpa using hfmt)
  simp only [List.map_cons, List.map_nil] at this
  rw [this]
  simp [wanted, sameFormat, hother]

/-! ### non-vacuity: the tutorial's aggregation shape and the `Exp` / `Experiment` pair -/
def exReg : Reg :=
  { taskFields := fun c => if c.qualname = "Exp" ∨ c.qualname = "Experiment" then some ["p"] else none,
    enumMembers := fun c => if c.qualname = "Color" then some ["RED", "BLUE"] else none }
def pickleFmt : CacheFmt := ⟨"PickleCache", Lt.Generated.pickleKeyPrefix, false⟩
def exEnv : Env Unit := { reg := exReg, cacheOf := fun _ => pickleFmt, sha1 := fun _ => "0", postInit := fun _ => () }
def cExp : ClassRef := ⟨"ptasks", "Exp"⟩
def tExp : Task := .mk cExp [("p", .scalar (.int 1))]
/-- a list of tasks, an enum member and a dict as parameter (what D6 lost) -/
def tExperiment : Task := .mk ⟨"ptasks", "Experiment"⟩
  [("p", .tuple [.task tExp, .enum ⟨"ptasks", "Color"⟩ "BLUE", .dict [("k", .tuple [.task tExp])]])]
def exSaved : List Saved := [⟨tExperiment, pickleFmt, "m1"⟩, ⟨tExp, pickleFmt, "m2"⟩]

theorem ex_hyps : (∀ s ∈ exSaved, wfTask s.t = true ∧ TypedT exEnv.reg s.t) ∧ (∀ s ∈ exSaved, s.fmt.isNull = false)
    ∧ (∀ s ∈ exSaved, ∀ c, (exEnv.cacheOf c).isNull = false → (exEnv.cacheOf c).name = s.fmt.name → exEnv.cacheOf c = s.fmt) := by
  refine ⟨?_, by decide +kernel, fun s hs c _ _ => ?_⟩
  · intro s hs
    simp only [exSaved, List.mem_cons, List.not_mem_nil, or_false] at hs
    rcases hs with rfl | rfl
    · refine ⟨by decide +kernel, ?_⟩
      simp [tExperiment, tExp, cExp, TypedT, TypedF, TypedV, TypedL, keys, exEnv, exReg]
    · refine ⟨by decide +kernel, ?_⟩
      simp [tExp, cExp, TypedT, TypedF, TypedV, keys, exEnv, exReg]
  · simp only [exSaved, List.mem_cons, List.not_mem_nil, or_false] at hs
    rcases hs with rfl | rfl <;> rfl

/-- the prefix test alone would let `Exp` open `Experiment`'s entry … -/
example : isPrefix (pickleFmt.kprefix ++ cExp.qualname) (Saved.entry exEnv.sha1 ⟨tExperiment, pickleFmt, "m1"⟩).key = true := by
  decide +kernel

/-- … but asking for `Exp` returns only the `Exp` entry, asking for both returns both, each once -/
example : cachedTasks exEnv [cExp] (exSaved.map (Saved.entry exEnv.sha1))
    = .ok [expected exEnv ⟨tExp, pickleFmt, "m2"⟩] := by
  rw [cached_tasks_exact exEnv [cExp] exSaved ex_hyps.1 ex_hyps.2.1 ex_hyps.2.2]
  rfl

example : cachedTasks exEnv [cExp, ⟨"ptasks", "Experiment"⟩, cExp] (exSaved.map (Saved.entry exEnv.sha1))
    = .ok [expected exEnv ⟨tExperiment, pickleFmt, "m1"⟩, expected exEnv ⟨tExp, pickleFmt, "m2"⟩] := by
  rw [cached_tasks_exact exEnv _ exSaved ex_hyps.1 ex_hyps.2.1 ex_hyps.2.2]
  rfl

end Lt.Params.C09

/-!
# C09, class and enum-member resolution (`deserialize_class` since D26, `deserialize_enum` since D27)

`cached_tasks` rebuilds a task from its `__class__` strings.  The theorems above take the class lookup as given
(`Reg`, asked with the pair that splitting at the last dot yields).  The ones below are about the lookup itself, in
the model `Lt.ClassRes` (`Model/ClassRes.lean`): a *world* says which dotted paths are importable modules, which of
them fail with a missing dependency, and which attribute chains exist on a module; `resolve w s` is the algorithm
of `deserialize_class` (import the part before the last dot; on `ModuleNotFoundError` for a prefix of that path move
one component to the attribute path; then `getattr` along the attributes), `resolveOld` the rule before D26.
`memberName` / `enumMember` are `serialize_enum` / `deserialize_enum` on a class's member table (Flag values are
`Nat` bit sets).  The model is tied to the real functions by the `CLSRES` correspondence check (harness/clsres.py).
-/
namespace Lt.Params.C09
open Lt.ClassRes

/-- **(a) Round trip.**  A class with module path `m` (importable: every parent is a module and none fails while it
executes) and qualified name `q` (every prefix of `q` is an attribute chain of `m`) is found again from its
serialisation - PROVIDED no `m ++ q.take i` with `0 < i < |q|` is itself an importable module (`NoShadow`).
Nesting depth is arbitrary. -/
theorem class_roundtrip (w : World) (m q : List String) (hm : m ≠ []) (hq : q ≠ [])
    (hdot : ∀ c ∈ m ++ q, freeOf '.' c = true)
    (himp : Importable w m) (hattr : HasAttrPath w m q) (hns : NoShadow w m q) :
    resolve w (ser m q) = .ok (m, q) := by
  simp only [resolve, ser]
  rw [splitStr_joinStr '.' (m ++ q) (by simp [hm]) hdot]
  have hmlen : 0 < m.length := List.length_pos_iff.mpr hm
  have hqlen : 0 < q.length := List.length_pos_iff.mpr hq
  rw [resolveComps, List.length_append, if_neg (by omega),
    show m.length + q.length - 1 = m.length + (q.length - 1) by omega]
  exact resolveAt_roundtrip w m q hm (importMod_ok w m himp) hq hattr hns _ (by omega)

/-- … and `ser m q` is the string the serialisation model above writes (`ClassRef.ser`) for the class with
`__module__ = '.'.join(m)` and `__qualname__ = '.'.join(q)` -/
theorem class_roundtrip_classRef (w : World) (m q : List String) (hm : m ≠ []) (hq : q ≠ [])
    (hdot : ∀ c ∈ m ++ q, freeOf '.' c = true)
    (himp : Importable w m) (hattr : HasAttrPath w m q) (hns : NoShadow w m q) :
    resolve w (ClassRef.ser ⟨joinStr '.' m, joinStr '.' q⟩) = .ok (m, q) := by
  rw [← ser_eq_classRef_ser m q hm hq]
  exact class_roundtrip w m q hm hq hdot himp hattr hns

/-- a package `pkg.mod` whose `__init__` defines `ModelA` with a nested `Variant`, next to a submodule
`pkg/mod/ModelA.py` that defines a class `Variant` of its own -/
def shadowWorld : World where
  modules := [["pkg"], ["pkg", "mod"], ["pkg", "mod", "ModelA"]]
  broken := []
  attrs := [(["pkg", "mod"], [["ModelA"], ["ModelA", "Variant"]]), (["pkg", "mod", "ModelA"], [["Variant"]])]

/-- **(a) WITNESS: `NoShadow` is needed.**  All other hypotheses of `class_roundtrip` hold for the class
`pkg.mod` / `ModelA.Variant` of `shadowWorld`, yet the serialisation resolves to ANOTHER object: the class `Variant`
of the submodule named like the holder class. -/
theorem class_roundtrip_needs_noShadow :
    Importable shadowWorld ["pkg", "mod"] ∧ HasAttrPath shadowWorld ["pkg", "mod"] ["ModelA", "Variant"]
    ∧ ¬ NoShadow shadowWorld ["pkg", "mod"] ["ModelA", "Variant"]
    ∧ resolve shadowWorld (ser ["pkg", "mod"] ["ModelA", "Variant"]) = .ok (["pkg", "mod", "ModelA"], ["Variant"])
    ∧ resolve shadowWorld (ser ["pkg", "mod"] ["ModelA", "Variant"]) ≠ .ok (["pkg", "mod"], ["ModelA", "Variant"]) := by
  have hres : resolve shadowWorld (ser ["pkg", "mod"] ["ModelA", "Variant"]) = .ok (["pkg", "mod", "ModelA"], ["Variant"]) := by
    decide +kernel
  exact ⟨by decide +kernel, by decide +kernel, by decide +kernel, hres, by rw [hres]; decide +kernel⟩

/-- **(b) Conservative extension.**  Whenever the rule before D26 (split at the last dot, import, one `getattr`)
finds an object, the new rule finds the same object … -/
theorem class_old_success_kept (w : World) (s : String) (o : Obj) (h : resolveOld w s = .ok o) :
    resolve w s = .ok o := by
  rcases resolveComps_old_or_shift w (splitStr '.' s) with he | ⟨he, _⟩
  · exact he.trans h
  · rw [resolveOld, he] at h; cases h

/-- … and whenever the new rule fails, the old rule failed with the same error: the repair only turned failures
into successes. -/
theorem class_error_same_as_old (w : World) (s : String) (e : ResErr) (h : resolve w s = .error e) :
    resolveOld w s = .error e := by
  rcases resolveComps_old_or_shift w (splitStr '.' s) with he | ⟨he, k, hk, hs⟩
  · exact he.symm.trans h
  · rw [resolveOld, he, resolveAt_error w _ k hk e (hs.symm.trans h)]

/-- **(c)** For a module-level class (qualified name without a dot) `NoShadow` is vacuous: the round trip needs only
"`m` is importable and has the attribute". -/
theorem class_roundtrip_toplevel (w : World) (m : List String) (c : String) (hm : m ≠ [])
    (hdot : ∀ x ∈ m ++ [c], freeOf '.' x = true)
    (himp : Importable w m) (hattr : (w.attrsOf m).contains [c] = true) :
    resolve w (ser m [c]) = .ok (m, [c]) := by
  apply class_roundtrip w m [c] hm (by simp) hdot himp
  · intro i h1 h2
    have : i = 1 := by simp at h2; omega
    subst this
    simpa using hattr
  · intro i h1 h2
    simp at h2
    omega

/-- **(d) Strings that name nothing, 1**: the first component is no importable module - `ModuleNotFoundError`, as
under the old rule. -/
theorem class_unknown_top_module (w : World) (s c0 : String) (rest : List String)
    (hs : splitStr '.' s = c0 :: rest) (hrest : rest ≠ []) (h : w.modules.contains [c0] = false) :
    resolve w s = .error .moduleNotFound ∧ resolveOld w s = .error .moduleNotFound := by
  have hlen : 0 < rest.length := List.length_pos_iff.mpr hrest
  have hnew : resolve w s = .error .moduleNotFound := by
    rw [resolve, hs, resolveComps, List.length_cons, if_neg (by omega)]
    exact resolveAt_unknown_top w c0 rest h _
  exact ⟨hnew, class_error_same_as_old w s _ hnew⟩

/-- **(d) Strings that name nothing, 2**: an importable module path followed by one name that is neither an
attribute of the module nor a submodule - `AttributeError`, as under the old rule. -/
theorem class_unknown_attribute (w : World) (s : String) (M : List String) (a : String)
    (hs : splitStr '.' s = M ++ [a]) (hM : M ≠ []) (himp : Importable w M)
    (hattr : (w.attrsOf M).contains [a] = false) (hmod : w.modules.contains (M ++ [a]) = false) :
    resolve w s = .error .attributeError ∧ resolveOld w s = .error .attributeError := by
  have hmlen : 0 < M.length := List.length_pos_iff.mpr hM
  have hok := importMod_ok w M himp
  have hsub := importMod_notFound w M a [] hok hmod
  have hnew : resolve w s = .error .attributeError := by
    have hattr' : [a] ∉ w.attrsOf M := by simpa using hattr
    have hmod' : M ++ [a] ∉ w.modules := by simpa using hmod
    have := resolveAt_append w M [a] hM 0
    simp only [Nat.add_zero] at this
    simp [resolve, hs, resolveComps, this, importWith, hok, hattr', hsub, walk, hmod']
    omega
  exact ⟨hnew, class_error_same_as_old w s _ hnew⟩

/-- **(e) D27, round trip.**  For every enum class with distinct identifier member names and every value `v` the
class can build (a member; for a Flag any OR of single-bit members, plus unnamed bits under boundary KEEP),
`deserialize_enum` maps the name `serialize_enum` writes - the member's name, `'R|W'`, `'A|8'`, `'0'` - back to `v`. -/
theorem enum_roundtrip (e : EnumCls) (hwf : e.WF) (v : Nat) (s : String) (h : memberName e v = some s) :
    enumMember e s = .ok v := by
  simp only [memberName] at h
  split at h
  · cases h
  · rename_i hvalid
    have hvalid : e.valid v = true := by simpa using hvalid
    split at h
    · -- a member of its own
      rename_i n hn
      cases h
      have := byName_mem e hwf _ (nameOf_some e v _ hn)
      simp only at this
      simp [enumMember, this]
    · rename_i hnone
      obtain ⟨hflag, _⟩ := flag_of_valid e v hnone hvalid
      have hsubvalid : ∀ y, y &&& v = y → e.valid y = true := fun y hy => valid_of_sub e v y hnone hvalid hy
      split at h
      · -- no named part: the number
        cases h
        have := enumMember_join e hflag v hsubvalid [(digitsOf v, v)] (by simp)
          (by simp [part_digits e hwf v hvalid, digitsOf_free])
          (by simpa [joinStr, joinC] using byName_not_ident e hwf _ (digitsOf_not_ident v))
        simpa [joinStr, joinC, orAll] using this
      · -- the named parts, and the number of the rest
        rename_i hcomb
        cases h
        have hlen := namedParts_length e v hnone (by simpa using hcomb)
        have := enumMember_join e hflag v hsubvalid (namedParts e v) (fun h0 => by rw [h0] at hlen; simp at hlen)
          (namedParts_resolve e hwf v hsubvalid)
          (byName_not_ident e hwf _ (joinStr_not_ident _ (by rw [List.length_map]; exact hlen)))
        rwa [namedParts_or, namedParts_fst] at this

/-- a name is written for exactly the values the class can build -/
theorem enum_name_defined (e : EnumCls) (v : Nat) : (memberName e v).isSome = e.valid v := by
  simp only [memberName]
  cases e.valid v
  · simp
  · simp only [Bool.not_true, Bool.false_eq_true, if_false]
    split
    · rfl
    · split <;> rfl

/-- **(e) D27, injectivity** (the C07 half): two different values of one class never share a serialised name. -/
theorem enum_name_injective (e : EnumCls) (hwf : e.WF) (v₁ v₂ : Nat) (s : String)
    (h₁ : memberName e v₁ = some s) (h₂ : memberName e v₂ = some s) : v₁ = v₂ :=
  Except.ok.inj (by rw [← enum_roundtrip e hwf v₁ s h₁, enum_roundtrip e hwf v₂ s h₂])

/-- `class Bits(IntFlag): A = 1; B = 2` -/
def exBits : EnumCls := ⟨[("A", 1), ("B", 2)], true, true⟩
/-- `class Perm(Flag): R = 1; W = 2; X = 4` -/
def exPerm : EnumCls := ⟨[("R", 1), ("W", 2), ("X", 4)], true, false⟩

theorem exBits_wf : exBits.WF := ⟨by decide +kernel, by decide +kernel⟩
theorem exPerm_wf : exPerm.WF := ⟨by decide +kernel, by decide +kernel⟩

/-- **(e) WITNESS: the naming before D27 is not injective** - the empty flag and a value of unnamed bits both have
the name `None` -, and a combination's name could not be looked up again. -/
theorem enum_old_naming_defective :
    memberNameOld exBits 0 = some none ∧ memberNameOld exBits 8 = some none
    ∧ memberNameOld exPerm 3 = some (some "R|W") ∧ enumMemberOld exPerm "R|W" = .error .keyError := by
  decide +kernel

/-! ### non-vacuity -/

/-- a module `pkg.leaf` with `class C: class D: class E`, a package `pkg` with `Top.In`, a module with a missing
dependency -/
def exWorld : World where
  modules := [["pkg"], ["pkg", "leaf"], ["pkg", "brk"]]
  broken := [["pkg", "brk"]]
  attrs := [(["pkg"], [["Top"], ["Top", "In"]]), (["pkg", "leaf"], [["C"], ["C", "D"], ["C", "D", "E"]]),
            (["pkg", "brk"], [["B"]])]

/-- three levels deep: found by the new rule, not by the old one -/
example : resolve exWorld "pkg.leaf.C.D.E" = .ok (["pkg", "leaf"], ["C", "D", "E"])
    ∧ resolveOld exWorld "pkg.leaf.C.D.E" = .error .moduleNotFound := by decide +kernel
/-- … which is `class_roundtrip` at this instance -/
example : resolve exWorld (ser ["pkg", "leaf"] ["C", "D", "E"]) = .ok (["pkg", "leaf"], ["C", "D", "E"]) :=
  class_roundtrip exWorld _ _ (by simp) (by simp) (by decide +kernel) (by decide +kernel) (by decide +kernel)
    (by decide +kernel)
/-- which error surfaces: `AttributeError` when nothing was shifted, the `ModuleNotFoundError` otherwise; a missing
dependency is re-raised; a module path resolves to the module; no dot is a `ValueError` -/
example : resolve exWorld "pkg.leaf.X" = .error .attributeError
    ∧ resolve exWorld "pkg.leaf.C.D.X" = .error .moduleNotFound
    ∧ resolve exWorld "nope.C" = .error .moduleNotFound
    ∧ resolve exWorld "pkg.brk.B" = .error .moduleNotFound
    ∧ resolve exWorld "pkg.leaf" = .ok (["pkg", "leaf"], [])
    ∧ resolve exWorld "pkg" = .error .valueError := by decide +kernel
/-- in `shadowWorld` the holder class itself is still found (the `fromlist` import prefers the attribute) -/
example : resolve shadowWorld "pkg.mod.ModelA" = .ok (["pkg", "mod"], ["ModelA"]) := by decide +kernel
/-- Flag names as D27 writes and reads them -/
example : memberName exPerm 3 = some "R|W" ∧ memberName exBits 9 = some "A|8" ∧ memberName exBits 0 = some "0"
    ∧ memberName exBits 8 = some "8" ∧ memberName exPerm 8 = none
    ∧ enumMember exPerm "R|W" = .ok 3 ∧ enumMember exBits "A|8" = .ok 9 ∧ enumMember exBits "0" = .ok 0
    ∧ enumMember exBits "A|Q" = .error .keyError ∧ enumMember exPerm "R|8" = .error .keyError := by decide +kernel

end Lt.Params.C09
