import LabtechModel.Proofs.Limit
import LabtechModel.Proofs.Plan
import LabtechModel.Proofs.InvMain
import LabtechModel.Proofs.Inv2Need
import LabtechModel.Proofs.IntrOnce
/-!
# C03 — Each distinct task runs at most once, and only if its result is needed

Proved here: the work list built by planning holds every equality class once (`plan_pending_nodup`);
starting a task removes it from the work list and nothing ever re-inserts it
(`started_leaves_pending`, `complete_keeps_pending`), so an equality class is submitted at most once
per run (`submit_phase_nodup`); a cached task contributes no dependencies to the plan
(`cached_not_expanded`); an already processed object is skipped (`processed_object_skipped`);
`run_or_load_task` either loads or executes, never both (`load_xor_exec`).

Whole runs (every problem, configuration, cache pre-state, fuel and schedule; no hypothesis; from
the master invariant of `Proofs/InvLoop.lean`):
* `submitted_at_most_once`: the `submit` events of a run (and of every loop-head state) have
  pairwise distinct tids — an equality class is handed to the runner at most once per run;
* `yielded_at_most_once`: likewise every task is yielded (finished/failed/died) at most once, and
  only after it was submitted (`yielded_was_submitted`);
* `nothing_outside_plan`: every submitted tid is in the work list built by planning, which
  (`plan_only_reachable`) holds only tids of requested objects and of objects found in the parameters
  of planned, not-cached objects.
* `executed_at_most_once`: the worker records of a run (`exec t …` = `run()` executed, `load t` =
  loaded from cache) carry pairwise distinct tasks: every equality class is executed or loaded at
  most once, never both (`no_second_execution` in explicit form); while the coordinator is running,
  every task with a worker record has been yielded, hence was submitted (`executed_was_yielded`).
Load-or-execute and the planning closure (from `FlagInv` of `Proofs/Inv2Flag.lean` and
`Proofs/Inv2Need.lean`; every problem, configuration, cache pre-state, fuel, schedule; failures allowed):
* `use_cache_fixed_at_plan_time`: the `use_cache` flag of every `submit` is the one planning computed
  from the cache pre-state (only a task's own execution writes its entry, and it is executed at most once);
* `load_implies_cached`, `exec_implies_not_cached`, `worker_record_planned` (no hypothesis) and
  `loaded_iff_cached_beforehand` (for runs that returned, planned tasks whose worker did not die): a
  task is loaded iff it was cached beforehand and not busted, executed iff it was not;
* `plan_is_needed_closure` (no hypothesis) / `needed_is_planned` (`Acyclic`, `InstOK`, `FuelOK`): the work
  list is exactly the set of tasks of `NeededObj` objects — the requested objects closed under "objects
  in the parameters of a needed object whose task is NOT cached beforehand";
* `cached_deps_untouched`: a task none of whose objects is needed — in particular one reachable from
  the requested tasks only through tasks cached beforehand — is not planned, never submitted, never
  loaded, never executed, never yielded.
At every instant of every interrupted run (statement-level model M10, `Proofs/IntrOnce.lean`; no hypothesis):
* `submitted_at_most_once_every_instant`, `executed_at_most_once_every_instant`,
  `nothing_outside_plan_every_instant` (each with `_handler`, `_second`), `once_and_planned_interrupted`,
  `no_second_submit_or_execution_interrupted`, `submitted_left_work_list_every_instant`: the whole-run
  statements for the state after EVERY primitive prefix of the main stream, of the first Ctrl-C handler
  entered at any instant, and of the second handler entered at any instant of the first.
-/
namespace Lt.Props.C03
open Lt

theorem plan_pending_nodup (cfg : Config) (p : Problem) (store : Store) (fuel : Nat) :
    (plan cfg p store fuel).pending.Nodup := (plan_PI cfg p store fuel).nodupP

/-- `start_task` removes the task from the work list -/
theorem started_leaves_pending (s s' : TS) (t : Tid) (h : startTask s t = some s') :
    t ∉ s'.pending ∧ ∀ x, x ∈ s'.pending → x ∈ s.pending := by
  obtain ⟨_, hs⟩ := startTask_some s s' t h
  subst hs
  constructor
  · simp
  · intro x hx; simp only [List.mem_filter] at hx; exact hx.1

/-- `complete_task` never touches the work list -/
theorem complete_keeps_pending (s s' : TS) (t : Tid) (rem : List Tid)
    (h : completeTask s t = some (s', rem)) : s'.pending = s.pending := by
  obtain ⟨_, _, _, _, _, _, _, hs, _⟩ := completeTask_some s s' t rem h
  subst hs; rfl

/-- the tasks submitted in one submit phase are pairwise distinct and all come from the work list -/
theorem submit_phase_nodup (p : Problem) (s : TS) (h : s.pending.Nodup) :
    (readyTasks p s).Nodup ∧ ∀ t ∈ readyTasks p s, t ∈ s.pending :=
  ⟨(readyAux_sublist p s s.pending _).nodup h, fun t ht => (readyTasks_no_pending_deps p s t ht).2⟩

/-- planning does not look at the parameters of a task that will be served from cache -/
theorem cached_not_expanded (p : Problem) (uc : Tid → Bool) (i : Iid) (rest : List Iid) (s : TS) (acc : List Iid)
    (hi : i ∉ s.processed) (hc : uc (p.tidOf i) = true) :
    processLevel p uc (i :: rest) s acc
      = processLevel p uc rest (insertTask i (p.tidOf i) [] { s with processed := s.processed ++ [i] }) acc := by
  simp [processLevel, hi, hc, dedup]

/-- an object that was already processed (identity) is skipped -/
theorem processed_object_skipped (p : Problem) (uc : Tid → Bool) (i : Iid) (rest : List Iid) (s : TS) (acc : List Iid)
    (hi : i ∈ s.processed) :
    processLevel p uc (i :: rest) s acc = processLevel p uc rest s acc := by
  simp [processLevel, hi]

/-- one job contributes exactly one record: a load when served from cache, an execution otherwise -/
theorem load_xor_exec (p : Problem) (ts : TS) (j : Job) :
    (j.useCache = true → runEvents p ts j = [Ev.load j.tid]) ∧
    (j.useCache = false → ∃ seen, runEvents p ts j = [Ev.exec j.tid seen]) := by
  constructor
  · intro h; simp [runEvents, h]
  · intro h; exact ⟨reads p (repr0 ts j.tid) (j.snap.getD []), by simp [runEvents, h]⟩

/-- every object recorded for a task is marked with the outcome when the task completes successfully -/
theorem instances_marked (cfg : Config) (req : List Tid) (rs : RS) (t : Tid) (v : Val)
    (hst : (processYield cfg req rs t (.ok v)).status = .running) :
    ∀ i ∈ rs.ts.instances t, i ∈ (processYield cfg req rs t (.ok v)).marked := by
  intro i hi
  simp only [processYield] at hst ⊢
  split at hst
  · simp at hst
  · next s' rem hc => simp [hi]

example : (plan { backend := .serial, maxWorkers := 1, contOnFail := true, bust := false }
    { tidOf := fun i => if i = 2 then 0 else i, children := fun i => if i = 1 then [0, 2] else [],
      requested := [1, 0], ty := fun _ => 0, maxPar := fun _ => none, cacheable := fun _ => true,
      fails := fun _ => false, dies := fun _ => false, behave := fun t _ => some t } [] 4).instances 0 = [0, 2] := by
  decide +kernel

/-- a list whose `f`-images are pairwise distinct does not hold two entries with the same image -/
theorem nodup_filterMap_no_two {α β} (f : α → Option β) (a b c : List α) (e e' : α) (t : β)
    (he : f e = some t) (he' : f e' = some t) (l : List α) (hnd : (l.filterMap f).Nodup) :
    l ≠ a ++ e :: b ++ e' :: c := by
  rintro rfl
  simp only [List.filterMap_append, List.filterMap_cons, he, he'] at hnd
  exact (List.nodup_append.mp hnd).2.2 t (List.mem_append_right _ List.mem_cons_self) t List.mem_cons_self rfl

/-- the `submit` events of a run have pairwise distinct tids -/
theorem submitted_at_most_once (cfg : Config) (p : Problem) (store : Store) (fuel : Nat) (sched : List Choice) :
    (submittedOf (run cfg p store fuel sched).trace).Nodup ∧
    (submittedOf (runLoop cfg p (reqTids p) sched (initRS cfg p store fuel)).trace).Nodup := by
  rw [run_trace]
  exact ⟨loopHead_submitted_nodup cfg p store fuel sched, loopHead_submitted_nodup cfg p store fuel sched⟩

/-- reading of `submittedOf`: it lists the tid of each `submit` event, in order -/
theorem submittedOf_spec (tr : List Ev) (t : Tid) : t ∈ submittedOf tr ↔ ∃ uc, Ev.submit t uc ∈ tr :=
  mem_submittedOf tr t

/-- explicit form: two different positions of the trace never submit the same task -/
theorem no_second_submit (cfg : Config) (p : Problem) (store : Store) (fuel : Nat) (sched : List Choice)
    (a b c : List Ev) (t : Tid) (uc uc' : Bool) :
    (run cfg p store fuel sched).trace ≠ a ++ Ev.submit t uc :: b ++ Ev.submit t uc' :: c :=
  nodup_filterMap_no_two evSubmit a b c _ _ t rfl rfl _ (submitted_at_most_once cfg p store fuel sched).1

theorem yielded_at_most_once (cfg : Config) (p : Problem) (store : Store) (fuel : Nat) (sched : List Choice) :
    (yieldedOf (run cfg p store fuel sched).trace).Nodup := by
  rw [run_trace]; exact loopHead_yielded_nodup cfg p store fuel sched

theorem yielded_was_submitted (cfg : Config) (p : Problem) (store : Store) (fuel : Nat) (sched : List Choice)
    (t : Tid) (o : Outcome) (h : Ev.yield t o ∈ (run cfg p store fuel sched).trace) :
    ∃ uc, Ev.submit t uc ∈ (run cfg p store fuel sched).trace := by
  rw [run_trace] at h ⊢
  exact loopHead_yielded_submitted cfg p store fuel sched t o h

/-- every submitted task is in the plan -/
theorem nothing_outside_plan (cfg : Config) (p : Problem) (store : Store) (fuel : Nat) (sched : List Choice)
    (t : Tid) (uc : Bool) (h : Ev.submit t uc ∈ (run cfg p store fuel sched).trace) :
    t ∈ (plan cfg p store fuel).pending := by
  rw [run_trace] at h
  exact loopHead_submitted_planned cfg p store fuel sched t uc h

/-- the plan's dependency edges only come from parameters of planned objects; a cached task
    contributes none -/
theorem plan_only_reachable (cfg : Config) (p : Problem) (store : Store) (fuel : Nat) (t d : Tid)
    (h : d ∈ (plan cfg p store fuel).ddeps t) :
    useCache cfg p store t = false ∧
    ∃ i, i ∈ (plan cfg p store fuel).instances t ∧ ∃ c ∈ p.children i, p.tidOf c = d := by
  refine ⟨?_, plan_ddeps_sound cfg p store fuel t d h⟩
  cases hc : useCache cfg p store t with
  | false => rfl
  | true => rw [plan_cached_no_deps cfg p store fuel t hc] at h; simp at h

/-- every equality class is executed or loaded at most once per run -/
theorem executed_at_most_once (cfg : Config) (p : Problem) (store : Store) (fuel : Nat) (sched : List Choice) :
    (ranOf (run cfg p store fuel sched).trace).Nodup := by
  rw [run_trace]; exact loopHead_ran_nodup cfg p store fuel sched

/-- reading of `ranOf`: it lists the task of each `exec` / `load` record, in order -/
theorem ranOf_spec (tr : List Ev) (t : Tid) :
    t ∈ ranOf tr ↔ (Ev.load t ∈ tr ∨ ∃ seen, Ev.exec t seen ∈ tr) := mem_ranOf tr t

/-- explicit form: no two worker records of a run belong to the same task -/
theorem no_second_execution (cfg : Config) (p : Problem) (store : Store) (fuel : Nat) (sched : List Choice)
    (a b c : List Ev) (e e' : Ev) (t : Tid) (he : evRan e = some t) (he' : evRan e' = some t) :
    (run cfg p store fuel sched).trace ≠ a ++ e :: b ++ e' :: c :=
  nodup_filterMap_no_two evRan a b c e e' t he he' _ (executed_at_most_once cfg p store fuel sched)

theorem executed_was_yielded (cfg : Config) (p : Problem) (store : Store) (fuel : Nat) (sched : List Choice)
    (hrun : (runLoop cfg p (reqTids p) sched (initRS cfg p store fuel)).status = .running) :
    ∀ t ∈ ranOf (runLoop cfg p (reqTids p) sched (initRS cfg p store fuel)).trace,
      t ∈ yieldedOf (runLoop cfg p (reqTids p) sched (initRS cfg p store fuel)).trace :=
  loopHead_ran_yielded cfg p store fuel sched hrun

/-- non-vacuity: with a warm cache for 1, the run executes 0, 2, 3 and loads 1, each once -/
example :
    ranOf (run invExCfg invExP [(1, 1000)] 4 (List.replicate 5 chooseAll)).trace = [1, 0, 2, 3] ∧
    Ev.load 1 ∈ (run invExCfg invExP [(1, 1000)] 4 (List.replicate 5 chooseAll)).trace ∧
    Ev.exec 3 [some 1000, some 2000] ∈ (run invExCfg invExP [(1, 1000)] 4 (List.replicate 5 chooseAll)).trace := by
  decide +kernel

/-- non-vacuity: the diamond with the duplicated object 4 (= task 0): four submits, one per class -/
example :
    submittedOf (run invExCfg invExP [] 4 (List.replicate 5 chooseAll)).trace = [0, 1, 2, 3] ∧
    (plan invExCfg invExP [] 4).pending = [3, 1, 2, 0] ∧
    (plan invExCfg invExP [] 4).instances 0 = [0, 4] := by decide +kernel

/-- non-vacuity with a warm cache: task 1 is cached, so it is loaded and its dependency edge is not
    planned; 0 still runs because 2 needs it -/
example :
    submittedOf (run invExCfg invExP [(1, 1000)] 4 (List.replicate 5 chooseAll)).trace = [1, 0, 2, 3] ∧
    (plan invExCfg invExP [(1, 1000)] 4).ddeps 1 = [] ∧
    Ev.load 1 ∈ (run invExCfg invExP [(1, 1000)] 4 (List.replicate 5 chooseAll)).trace := by decide +kernel

/-- `use_cache` at submit time = `use_cache` at plan time -/
theorem use_cache_fixed_at_plan_time (cfg : Config) (p : Problem) (store : Store) (fuel : Nat)
    (sched : List Choice) (t : Tid) (uc : Bool) (h : Ev.submit t uc ∈ (run cfg p store fuel sched).trace) :
    uc = useCache cfg p store t := by
  rw [run_trace] at h
  exact (run_flagTr cfg p store fuel sched).subOK t uc h

/-- a task is loaded only if it was cached beforehand (and the cache is not busted) -/
theorem load_implies_cached (cfg : Config) (p : Problem) (store : Store) (fuel : Nat)
    (sched : List Choice) (t : Tid) (h : Ev.load t ∈ (run cfg p store fuel sched).trace) :
    useCache cfg p store t = true ∧ t ∈ (plan cfg p store fuel).pending := by
  rw [run_trace] at h
  exact ⟨(run_flagTr cfg p store fuel sched).loadOK t h,
    loopHead_ran_planned cfg p store fuel sched t ((mem_ranOf _ _).mpr (Or.inl h))⟩

/-- a task is executed only if it was not cached beforehand (or the cache is busted) -/
theorem exec_implies_not_cached (cfg : Config) (p : Problem) (store : Store) (fuel : Nat)
    (sched : List Choice) (t : Tid) (seen : List (Option Val))
    (h : Ev.exec t seen ∈ (run cfg p store fuel sched).trace) :
    useCache cfg p store t = false ∧ t ∈ (plan cfg p store fuel).pending := by
  rw [run_trace] at h
  exact ⟨(run_flagTr cfg p store fuel sched).execOK t seen h,
    loopHead_ran_planned cfg p store fuel sched t ((mem_ranOf _ _).mpr (Or.inr ⟨seen, h⟩))⟩

/-- every worker record (load or execution) belongs to a planned task -/
theorem worker_record_planned (cfg : Config) (p : Problem) (store : Store) (fuel : Nat)
    (sched : List Choice) (t : Tid) (h : t ∈ ranOf (run cfg p store fuel sched).trace) :
    t ∈ (plan cfg p store fuel).pending := by
  rw [run_trace] at h
  exact loopHead_ran_planned cfg p store fuel sched t h

/-- in a run that returned, a planned task whose worker did not die was loaded iff it was cached
    beforehand, executed iff it was not (`useCache` = not busted ∧ persisting cache ∧ entry present) -/
theorem loaded_iff_cached_beforehand (cfg : Config) (p : Problem) (store : Store) (fuel : Nat)
    (sched : List Choice) (r : List (Tid × Val)) (hret : (run cfg p store fuel sched).status = .returned r)
    (t : Tid) (ht : t ∈ (plan cfg p store fuel).pending) (hd : diesIn cfg p t = false) :
    (Ev.load t ∈ (run cfg p store fuel sched).trace ↔ useCache cfg p store t = true) ∧
    ((∃ seen, Ev.exec t seen ∈ (run cfg p store fuel sched).trace) ↔ useCache cfg p store t = false) := by
  have hF := run_flagTr cfg p store fuel sched
  have hY := (returned_all_yielded cfg p store fuel sched r hret t).mp ht
  have hran := (mem_ranOf _ _).mp (hF.ranAll t (Or.inl hY) hd)
  rw [run_trace]
  constructor
  · refine ⟨hF.loadOK t, fun huc => ?_⟩
    rcases hran with h | ⟨seen, h⟩
    · exact h
    · have := hF.execOK t seen h
      rw [huc] at this; cases this
  · refine ⟨fun ⟨seen, h⟩ => hF.execOK t seen h, fun huc => ?_⟩
    rcases hran with h | h
    · have := hF.loadOK t h
      rw [huc] at this; cases this
    · exact h

/-- reading of `diesIn`: a worker can die only under a process backend -/
theorem diesIn_spec (cfg : Config) (p : Problem) (t : Tid) :
    diesIn cfg p t = true ↔ (cfg.backend ≠ .serial ∧ p.dies t = true) := by
  simp only [diesIn]
  split <;> simp_all

/-- the work list holds only tasks of needed objects (no hypothesis) -/
theorem plan_is_needed_closure (cfg : Config) (p : Problem) (store : Store) (fuel : Nat) (t : Tid)
    (h : t ∈ (plan cfg p store fuel).pending) : ∃ i, NeededObj cfg p store i ∧ p.tidOf i = t :=
  plan_pending_needed cfg p store fuel t h

/-- and, given acyclicity, consistent objects and enough fuel, all of them -/
theorem needed_is_planned (cfg : Config) (p : Problem) (store : Store) (fuel : Nat)
    (hA : Acyclic p) (hI : InstOK p) (hF : FuelOK p fuel) (i : Iid) (h : NeededObj cfg p store i) :
    p.tidOf i ∈ (plan cfg p store fuel).pending :=
  needed_planned cfg p store fuel hA hI hF i h

/-- a task none of whose objects is reachable from the requested objects through NOT-cached tasks is
    left completely alone: not planned, not submitted, not loaded, not executed, not yielded -/
theorem cached_deps_untouched (cfg : Config) (p : Problem) (store : Store) (fuel : Nat)
    (sched : List Choice) (t : Tid) (hn : ¬ ∃ i, NeededObj cfg p store i ∧ p.tidOf i = t) :
    t ∉ (plan cfg p store fuel).pending ∧
    (∀ uc, Ev.submit t uc ∉ (run cfg p store fuel sched).trace) ∧
    Ev.load t ∉ (run cfg p store fuel sched).trace ∧
    (∀ seen, Ev.exec t seen ∉ (run cfg p store fuel sched).trace) ∧
    (∀ o, Ev.yield t o ∉ (run cfg p store fuel sched).trace) := by
  have hnp : t ∉ (plan cfg p store fuel).pending := fun h => hn (plan_pending_needed cfg p store fuel t h)
  refine ⟨hnp, ?_, ?_, ?_, ?_⟩
  · intro uc h; exact hnp (nothing_outside_plan cfg p store fuel sched t uc h)
  · intro h; exact hnp (load_implies_cached cfg p store fuel sched t h).2
  · intro seen h; exact hnp (exec_implies_not_cached cfg p store fuel sched t seen h).2
  · intro o h
    obtain ⟨uc, hs⟩ := yielded_was_submitted cfg p store fuel sched t o h
    exact hnp (nothing_outside_plan cfg p store fuel sched t uc hs)

/-- chain 2 → 1 → 0 with 1 cached beforehand: only 2 is requested -/
def chainP : Problem where
  tidOf := fun i => i
  children := fun i => if i = 2 then [1] else if i = 1 then [0] else []
  requested := [2]
  ty := fun _ => 0
  maxPar := fun _ => none
  cacheable := fun _ => true
  fails := fun _ => false
  dies := fun _ => false
  behave := fun t vs => some (10 * t + (vs.map (fun o => o.getD 7)).foldl (· + ·) 0)

/-- non-vacuity of `cached_deps_untouched`: 0 is reachable only through the cached task 1 -/
theorem chainP_zero_not_needed : ¬ ∃ i, NeededObj invExCfg chainP [(1, 77)] i ∧ chainP.tidOf i = 0 := by
  have key : ∀ i, NeededObj invExCfg chainP [(1, 77)] i → i = 2 ∨ i = 1 := by
    intro i h
    induction h with
    | req hi => left; simpa [chainP] using hi
    | @dep i c _ huc hc ih =>
      rcases ih with h | h
      · subst h; right; simpa [chainP] using hc
      · subst h
        have : useCache invExCfg chainP [(1, 77)] (chainP.tidOf 1) = true := by decide +kernel
        rw [this] at huc; cases huc
  rintro ⟨i, hi, h0⟩
  have h0' : i = 0 := h0
  rcases key i hi with h | h <;> (rw [h] at h0'; exact absurd h0' (by decide))

example :
    (plan invExCfg chainP [(1, 77)] 3).pending = [2, 1] ∧
    ranOf (run invExCfg chainP [(1, 77)] 3 (List.replicate 3 chooseAll)).trace = [1, 2] ∧
    Ev.load 1 ∈ (run invExCfg chainP [(1, 77)] 3 (List.replicate 3 chooseAll)).trace ∧
    Ev.exec 2 [some 77] ∈ (run invExCfg chainP [(1, 77)] 3 (List.replicate 3 chooseAll)).trace ∧
    submittedOf (run invExCfg chainP [(1, 77)] 3 (List.replicate 3 chooseAll)).trace = [1, 2] ∧
    (run invExCfg chainP [(1, 77)] 3 (List.replicate 3 chooseAll)).status = .returned [(2, 97)] ∧
    useCache invExCfg chainP [(1, 77)] 1 = true ∧ useCache invExCfg chainP [(1, 77)] 2 = false := by decide +kernel

example : 0 ∉ (plan invExCfg chainP [(1, 77)] 3).pending ∧
    Ev.load 0 ∉ (run invExCfg chainP [(1, 77)] 3 (List.replicate 3 chooseAll)).trace :=
  let h := cached_deps_untouched invExCfg chainP [(1, 77)] 3 (List.replicate 3 chooseAll) 0 chainP_zero_not_needed
  ⟨h.1, h.2.2.1⟩

/-- the hypotheses of `loaded_iff_cached_beforehand` are satisfiable -/
example : Ev.load 1 ∈ (run invExCfg chainP [(1, 77)] 3 (List.replicate 3 chooseAll)).trace :=
  (loaded_iff_cached_beforehand invExCfg chainP [(1, 77)] 3 (List.replicate 3 chooseAll) [(2, 97)] (by decide +kernel)
    1 (by decide +kernel) (by decide +kernel)).1.mpr (by decide +kernel)

/-- why `loaded_iff_cached_beforehand` needs "the worker did not die": under a process backend a
    worker that dies leaves no record at all (task 2 is planned, not cached, delivered as `died`,
    and neither loaded nor executed); the serial runner has no worker that could die -/
example :
    let pr : Problem := { invExP with dies := fun t => t == 2 }
    (run invExCfg pr [] 4 (List.replicate 5 chooseAll)).status = .returned [(3, 4007), (1, 1000)] ∧
    2 ∈ (plan invExCfg pr [] 4).pending ∧ useCache invExCfg pr [] 2 = false ∧
    ranOf (run invExCfg pr [] 4 (List.replicate 5 chooseAll)).trace = [0, 1, 3] ∧
    ranOf (run { invExCfg with backend := .serial } pr [] 4 (List.replicate 5 chooseAll)).trace = [0, 1, 2, 3] := by
  decide +kernel

/-! At every instant of every interrupted run (statement granularity, model M10). `mainAt … k`: the state after the first `k` primitives (Python statements) of the main loop's stream,
for EVERY `k` — mid-submit-phase, inside `_start_processes` (where a future is in the pending map AND in
the running map), mid-`complete_task`; `handlerAt … k ds m`: after `m` further primitives of the
`KeyboardInterrupt` handler (`cancel`, drain along `ds`) entered at instant `k`; `secondAt … k ds m m2`:
after `m2` primitives of the second handler (`cancel`, `stop`, one last processing round) entered at
instant `m` of the first. (Same definitions as in `Props/C04.lean`.) The invariant `OI` of
`Proofs/IntrOnce.lean` holds in all of them, for every problem, configuration, cache pre-state, fuel,
schedule and drain schedule; no hypothesis. -/

/-- state after the first `k` primitives of the main loop's stream (`k` beyond its end: the end) -/
abbrev mainAt (cfg : Config) (p : Problem) (store : Store) (fuel : Nat) (sched : List Choice) (k : Nat) : IS :=
  stateAt cfg p store fuel sched k

/-- state after `m` primitives of the first interrupt handler entered at instant `k` -/
abbrev handlerAt (cfg : Config) (p : Problem) (store : Store) (fuel : Nat) (sched : List Choice) (k : Nat)
    (ds : List Choice) (m : Nat) : IS :=
  runPrims cfg p ((handlerPrims cfg p (reqTids p) ds (mainAt cfg p store fuel sched k)).take m)
    (mainAt cfg p store fuel sched k)

/-- state after `m2` primitives of the second handler entered at instant `m` of the first -/
abbrev secondAt (cfg : Config) (p : Problem) (store : Store) (fuel : Nat) (sched : List Choice) (k : Nat)
    (ds : List Choice) (m m2 : Nat) : IS :=
  runPrims cfg p ((secondPrims cfg p (reqTids p) (handlerAt cfg p store fuel sched k ds m)).take m2)
    (handlerAt cfg p store fuel sched k ds m)

/-- the states of `interruptedRun` (at the interrupt, and final) are among these -/
theorem interruptedRun_states (cfg : Config) (p : Problem) (store : Store) (fuel : Nat)
    (sched ds : List Choice) (k : Nat) (k2 : Option Nat) :
    (∃ k', (interruptedRun cfg p store fuel sched k ds k2).atIntr = mainAt cfg p store fuel sched k') ∧
    ((∃ k', (interruptedRun cfg p store fuel sched k ds k2).final = mainAt cfg p store fuel sched k') ∨
     (∃ m, (interruptedRun cfg p store fuel sched k ds k2).final = handlerAt cfg p store fuel sched k ds m) ∨
     (∃ m m2, (interruptedRun cfg p store fuel sched k ds k2).final = secondAt cfg p store fuel sched k ds m m2)) :=
  interruptedRun_cases store fuel sched ds k k2

/-- SUBMITTED AT MOST ONCE, AT EVERY INSTANT of the main loop: after ANY number `k` of primitives the
    `submit` events of the trace carry pairwise distinct tasks -/
theorem submitted_at_most_once_every_instant (cfg : Config) (p : Problem) (store : Store) (fuel : Nat)
    (sched : List Choice) (k : Nat) : (submittedOf (mainAt cfg p store fuel sched k).rs.trace).Nodup :=
  (stateAt_OI store fuel sched k).subNd

/-- … and at every instant of the interrupt handler entered at any instant `k` -/
theorem submitted_at_most_once_every_instant_handler (cfg : Config) (p : Problem) (store : Store) (fuel : Nat)
    (sched : List Choice) (k : Nat) (ds : List Choice) (m : Nat) :
    (submittedOf (handlerAt cfg p store fuel sched k ds m).rs.trace).Nodup :=
  (handlerStateAt_OI store fuel sched k ds m).subNd

/-- … and at every instant of the second handler (double interrupt at any `k`, `m`) -/
theorem submitted_at_most_once_every_instant_second (cfg : Config) (p : Problem) (store : Store) (fuel : Nat)
    (sched : List Choice) (k : Nat) (ds : List Choice) (m m2 : Nat) :
    (submittedOf (secondAt cfg p store fuel sched k ds m m2).rs.trace).Nodup :=
  (secondStateAt_OI store fuel sched k ds m m2).subNd

/-- EXECUTED AT MOST ONCE, AT EVERY INSTANT of the main loop: the worker records (`exec` = `run()`
    executed, `load` = loaded from cache) carry pairwise distinct tasks -/
theorem executed_at_most_once_every_instant (cfg : Config) (p : Problem) (store : Store) (fuel : Nat)
    (sched : List Choice) (k : Nat) : (ranOf (mainAt cfg p store fuel sched k).rs.trace).Nodup :=
  (stateAt_OI store fuel sched k).ranNd

/-- … during the drain after one Ctrl-C -/
theorem executed_at_most_once_every_instant_handler (cfg : Config) (p : Problem) (store : Store) (fuel : Nat)
    (sched : List Choice) (k : Nat) (ds : List Choice) (m : Nat) :
    (ranOf (handlerAt cfg p store fuel sched k ds m).rs.trace).Nodup :=
  (handlerStateAt_OI store fuel sched k ds m).ranNd

/-- … and in the final processing round after a second Ctrl-C -/
theorem executed_at_most_once_every_instant_second (cfg : Config) (p : Problem) (store : Store) (fuel : Nat)
    (sched : List Choice) (k : Nat) (ds : List Choice) (m m2 : Nat) :
    (ranOf (secondAt cfg p store fuel sched k ds m m2).rs.trace).Nodup :=
  (secondStateAt_OI store fuel sched k ds m m2).ranNd

/-- what `OI` says about the tasks on record: every submitted, started, loaded or executed task is in
    the work list built by planning, and was submitted -/
theorem OI_on_record {P : TS} {s : IS} (h : OI P s) (t : Tid)
    (ht : (∃ uc, Ev.submit t uc ∈ s.rs.trace) ∨ Ev.start t ∈ s.rs.trace ∨ Ev.load t ∈ s.rs.trace ∨
      (∃ seen, Ev.exec t seen ∈ s.rs.trace)) :
    t ∈ P.pending ∧ ∃ uc, Ev.submit t uc ∈ s.rs.trace := by
  have hs : t ∈ submittedOf s.rs.trace := by
    rcases ht with h1 | h1 | h1 | h1
    · exact (mem_submittedOf _ _).mpr h1
    · exact h.startSub t h1
    · exact h.ranSub t ((mem_ranOf _ _).mpr (Or.inl h1))
    · exact h.ranSub t ((mem_ranOf _ _).mpr (Or.inr h1))
  exact ⟨h.subPlan t hs, (mem_submittedOf _ _).mp hs⟩

/-- NOTHING OUTSIDE THE PLAN, AT EVERY INSTANT of the main loop: every task with a `submit`, `start`,
    `load` or `exec` event is in the work list built by planning (which `plan_is_needed_closure` ties to
    the needed objects), and has a `submit` event -/
theorem nothing_outside_plan_every_instant (cfg : Config) (p : Problem) (store : Store) (fuel : Nat)
    (sched : List Choice) (k : Nat) (t : Tid)
    (ht : (∃ uc, Ev.submit t uc ∈ (mainAt cfg p store fuel sched k).rs.trace) ∨
      Ev.start t ∈ (mainAt cfg p store fuel sched k).rs.trace ∨
      Ev.load t ∈ (mainAt cfg p store fuel sched k).rs.trace ∨
      (∃ seen, Ev.exec t seen ∈ (mainAt cfg p store fuel sched k).rs.trace)) :
    t ∈ (plan cfg p store fuel).pending ∧ ∃ uc, Ev.submit t uc ∈ (mainAt cfg p store fuel sched k).rs.trace :=
  OI_on_record (stateAt_OI store fuel sched k) t ht

theorem nothing_outside_plan_every_instant_handler (cfg : Config) (p : Problem) (store : Store) (fuel : Nat)
    (sched : List Choice) (k : Nat) (ds : List Choice) (m : Nat) (t : Tid)
    (ht : (∃ uc, Ev.submit t uc ∈ (handlerAt cfg p store fuel sched k ds m).rs.trace) ∨
      Ev.start t ∈ (handlerAt cfg p store fuel sched k ds m).rs.trace ∨
      Ev.load t ∈ (handlerAt cfg p store fuel sched k ds m).rs.trace ∨
      (∃ seen, Ev.exec t seen ∈ (handlerAt cfg p store fuel sched k ds m).rs.trace)) :
    t ∈ (plan cfg p store fuel).pending ∧
      ∃ uc, Ev.submit t uc ∈ (handlerAt cfg p store fuel sched k ds m).rs.trace :=
  OI_on_record (handlerStateAt_OI store fuel sched k ds m) t ht

theorem nothing_outside_plan_every_instant_second (cfg : Config) (p : Problem) (store : Store) (fuel : Nat)
    (sched : List Choice) (k : Nat) (ds : List Choice) (m m2 : Nat) (t : Tid)
    (ht : (∃ uc, Ev.submit t uc ∈ (secondAt cfg p store fuel sched k ds m m2).rs.trace) ∨
      Ev.start t ∈ (secondAt cfg p store fuel sched k ds m m2).rs.trace ∨
      Ev.load t ∈ (secondAt cfg p store fuel sched k ds m m2).rs.trace ∨
      (∃ seen, Ev.exec t seen ∈ (secondAt cfg p store fuel sched k ds m m2).rs.trace)) :
    t ∈ (plan cfg p store fuel).pending ∧
      ∃ uc, Ev.submit t uc ∈ (secondAt cfg p store fuel sched k ds m m2).rs.trace :=
  OI_on_record (secondStateAt_OI store fuel sched k ds m m2) t ht

/-- a submitted task has left the work list for good, at every instant of all three streams (so it
    cannot be handed to `get_ready_tasks` again) -/
theorem submitted_left_work_list_every_instant (cfg : Config) (p : Problem) (store : Store) (fuel : Nat)
    (sched : List Choice) (k : Nat) (ds : List Choice) (m m2 : Nat) (t : Tid) :
    (t ∈ submittedOf (mainAt cfg p store fuel sched k).rs.trace →
      t ∉ (mainAt cfg p store fuel sched k).rs.ts.pending) ∧
    (t ∈ submittedOf (handlerAt cfg p store fuel sched k ds m).rs.trace →
      t ∉ (handlerAt cfg p store fuel sched k ds m).rs.ts.pending) ∧
    (t ∈ submittedOf (secondAt cfg p store fuel sched k ds m m2).rs.trace →
      t ∉ (secondAt cfg p store fuel sched k ds m m2).rs.ts.pending) :=
  ⟨(stateAt_OI store fuel sched k).subP t, (handlerStateAt_OI store fuel sched k ds m).subP t,
    (secondStateAt_OI store fuel sched k ds m m2).subP t⟩

/-- all of it for `interruptedRun` itself: the state at the interrupt and the final state, for every
    interrupt instant `k`, drain schedule `ds` and optional second interrupt instant `k2` -/
theorem once_and_planned_interrupted (cfg : Config) (p : Problem) (store : Store) (fuel : Nat)
    (sched ds : List Choice) (k : Nat) (k2 : Option Nat) (s : IS)
    (hs : s = (interruptedRun cfg p store fuel sched k ds k2).final ∨
          s = (interruptedRun cfg p store fuel sched k ds k2).atIntr) :
    (submittedOf s.rs.trace).Nodup ∧ (ranOf s.rs.trace).Nodup ∧
    ∀ t, ((∃ uc, Ev.submit t uc ∈ s.rs.trace) ∨ Ev.start t ∈ s.rs.trace ∨ Ev.load t ∈ s.rs.trace ∨
        (∃ seen, Ev.exec t seen ∈ s.rs.trace)) →
      t ∈ (plan cfg p store fuel).pending ∧ ∃ uc, Ev.submit t uc ∈ s.rs.trace := by
  have hi := interruptedRun_instant (cfg := cfg) (p := p) store fuel sched ds k k2
  have hoi : OI (plan cfg p store fuel) s := by
    rcases hs with rfl | rfl
    · exact instant_OI hi.2
    · exact instant_OI hi.1
  exact ⟨hoi.subNd, hoi.ranNd, fun t ht => OI_on_record hoi t ht⟩

/-- explicit form: two different positions of the final trace of an interrupted run never submit the
    same task, and never carry a worker record of the same task -/
theorem no_second_submit_or_execution_interrupted (cfg : Config) (p : Problem) (store : Store) (fuel : Nat)
    (sched ds : List Choice) (k : Nat) (k2 : Option Nat) (a b c : List Ev) (e e' : Ev) (t : Tid)
    (he : (evSubmit e = some t ∧ evSubmit e' = some t) ∨ (evRan e = some t ∧ evRan e' = some t)) :
    (interruptedRun cfg p store fuel sched k ds k2).final.rs.trace ≠ a ++ e :: b ++ e' :: c := by
  obtain ⟨h1, h2, _⟩ := once_and_planned_interrupted cfg p store fuel sched ds k k2 _ (Or.inl rfl)
  rcases he with ⟨he, he'⟩ | ⟨he, he'⟩
  · exact nodup_filterMap_no_two evSubmit a b c e e' t he he' _ h1
  · exact nodup_filterMap_no_two evRan a b c e e' t he he' _ h2

/-! non-vacuity at mid-iteration instants and in interrupted runs (`invExP`: the diamond 3 → {1, 2} → 0,
    `invExCfg`: fork, 2 workers; 61 primitives; 14 … 26 is the submit phase of tasks 1 and 2:
    14 startTask 1, 15 enqueue 1, 16 procStart 1, 17 regRunning 1, 18 unregPending 1, 19 regFuture 1,
    20 startTask 2, 21 enqueue 2, 22 procStart 2, 23 regRunning 2, 24 unregPending 2, 25 regFuture 2) -/
def c03Sched : List Choice := List.replicate 5 chooseAll

/-- k = 24, strictly between two loop heads, inside `_start_processes`: the future of task 2 is in the
    pending map AND in the running map (the extra invariant `OS` of the main stream's block boundaries
    is false here, `OI` holds); three tasks submitted, one executed -/
example : (mainOf invExCfg invExP [] 4 c03Sched).length = 61 ∧
    (mainAt invExCfg invExP [] 4 c03Sched 24).rs.queued.map Job.tid = [2] ∧
    (mainAt invExCfg invExP [] 4 c03Sched 24).rs.running.map Job.tid = [1, 2] ∧
    submittedOf (mainAt invExCfg invExP [] 4 c03Sched 24).rs.trace = [0, 1, 2] ∧
    ranOf (mainAt invExCfg invExP [] 4 c03Sched 24).rs.trace = [0] := by decide +kernel

/-- a single interrupt in that window: the handler cancels the pending entry of 2 and drains; tasks 1
    and 2 are executed AFTER the interrupt, each once (task 2 although it was tracked twice); task 3 is
    planned but never submitted -/
example :
    (interruptedRun invExCfg invExP [] 4 c03Sched 24 c03Sched none).outcome = .interrupted ∧
    ranOf (interruptedRun invExCfg invExP [] 4 c03Sched 24 c03Sched none).atIntr.rs.trace = [0] ∧
    ranOf (interruptedRun invExCfg invExP [] 4 c03Sched 24 c03Sched none).final.rs.trace = [0, 1, 2] ∧
    submittedOf (interruptedRun invExCfg invExP [] 4 c03Sched 24 c03Sched none).final.rs.trace = [0, 1, 2] ∧
    (plan invExCfg invExP [] 4).pending = [3, 1, 2, 0] := by decide +kernel

/-- a double interrupt (second one after the first handler's first primitive): `stop()` terminates the
    workers of 1 and 2, the last processing round starts and executes nothing -/
example :
    (interruptedRun invExCfg invExP [] 4 c03Sched 24 c03Sched (some 1)).outcome = .interrupted ∧
    (interruptedRun invExCfg invExP [] 4 c03Sched 24 c03Sched (some 1)).final.terminated = [1, 2] ∧
    ranOf (interruptedRun invExCfg invExP [] 4 c03Sched 24 c03Sched (some 1)).final.rs.trace = [0] ∧
    submittedOf (interruptedRun invExCfg invExP [] 4 c03Sched 24 c03Sched (some 1)).final.rs.trace = [0, 1, 2] := by
  decide +kernel

/-- the theorem applied to the single-interrupt run: task 2, executed during the drain, is planned -/
example : 2 ∈ (plan invExCfg invExP [] 4).pending :=
  ((once_and_planned_interrupted invExCfg invExP [] 4 c03Sched c03Sched 24 none _ (Or.inl rfl)).2.2 2
    (Or.inr (Or.inr (Or.inr ⟨[some 0], by decide +kernel⟩)))).1

end Lt.Props.C03
