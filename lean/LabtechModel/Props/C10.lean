import LabtechModel.Proofs.Submit
import LabtechModel.Proofs.InvMain
import LabtechModel.Proofs.Inv2Main
import LabtechModel.Proofs.Inv2FailFast
/-!
# C10 — One task's failure never disturbs unrelated tasks

Proved here, for every state, task and failing outcome (raise or death):
* with `continue_on_failure`, handling a failed task never raises (`failure_is_skipped`): the run
  carries on; the failed task stores no result and nothing is captured for it
  (`failed_task_has_no_result`), and other tasks' captured results are untouched;
* without it, the first failure turns into `LabError` for that very task (`fail_fast_raises`), the
  rest of the batch is not processed and the loop body never runs again, so no further task is
  started (`raised_stops_yields`, `raised_stops_loop`);
* a failure still completes the task in the scheduler, so its dependents are unblocked exactly as
  for a success (`failure_completes_task`);
* `run_tasks` returns only the requested tasks that have a captured result (`returned_only_captured`).

Whole runs (from the master invariant of `Proofs/InvLoop.lean`):
* `failure_isolated_status` (no hypothesis): with `continue_on_failure` no reachable loop-head state
  has raised, whatever subset of tasks raise or die, and `run_tasks` never raises;
* `failure_isolated_returns` (`Acyclic`, `FuelOK`, `LimitsPos`, `Fair` schedule long enough): it
  terminates by returning;
* `no_start_after_raise`: once `LabError` is raised the trace does not grow any more (no further
  task is started), whatever the rest of the schedule.
Failure-aware reference evaluation (from `ValInv` / `FlagInv` of `Proofs/Inv2*.lean`), hypotheses `RefHypF`
(`Acyclic`, `InstOK`, a choice `obj` of one object per tid), `FuelOK`, `LimitsPos`, fair schedule that is
long enough; the cache pre-state is ARBITRARY (a load returns whatever is stored):
* `refEvalF_spec`: what `refEvalF` is — no value if the worker dies (process backends only), the stored
  value if cached beforehand and not busted, no value if `run()` raises, otherwise `run()` applied to
  the reference values of the task objects in its parameters (a failed one read as `none`);
* `unrelated_tasks_return_reference`: with `continue_on_failure`, whatever subset of tasks raise or
  die, `run_tasks` returns exactly the requested tasks that have a reference value, each with that
  value, in request order; `returned_iff_reference` is the membership form (a failed task, or one that
  lets a failed dependency's `TaskError` propagate, is absent);
* `reference_when_nothing_fails`: the same equation for `continue_on_failure = False` when no planned
  task fails (this is what C01's `returns_reference_values` is a corollary of);
* `every_yield_is_refF`: every outcome handed to the coordinator at any point of any run is the
  reference outcome: `ok v` iff `refEvalF t = some v`, `died` iff the worker dies, `exc` otherwise;
* `store_after_run` / `store_at_loop_head`: the final store, as a map, is the pre-state overridden by
  `(t, refEvalF t)` for exactly the planned tasks that were not cached beforehand (= executed, `Props.C03`), whose type is
  cacheable and that have a reference value; every other key keeps its pre-state entry (or absence).
Fail-fast (`continue_on_failure = False`), whole runs (from `FFInv` of `Proofs/Inv2FailFast.lean`: the value
invariant carried through the loop for an ARBITRARY configuration, with arbitrary raising / dying tasks and an
arbitrary cache pre-state; hypotheses `RefHypF` and, where a return is concerned, `0 < fuel ∨ requested = []` — no
fairness, no `LimitsPos`, no bound on the schedule):
* `labError_is_first_reference_failure`: a `LabError` names the first failure handed to the coordinator, and that
  task has no reference value; `every_yield_is_refF_any_config`: `every_yield_is_refF` for every configuration;
* `returned_is_reference`, `fail_fast_returned_no_failure`, `fail_fast_status_cases`: what a return means.
-/
namespace Lt.Props.C10
open Lt

def failed (o : Outcome) : Prop := o = .exc ∨ o = .died

theorem failure_is_skipped (cfg : Config) (req : List Tid) (rs : RS) (t : Tid) (o : Outcome)
    (ho : failed o) (hc : cfg.contOnFail = true) (s' : TS) (rem : List Tid)
    (hct : completeTask rs.ts t = some (s', rem)) :
    (processYield cfg req rs t o).status = rs.status ∧ (processYield cfg req rs t o).ts = s' := by
  rcases ho with h | h <;> subst h <;> simp [processYield, hct, hc]

theorem failed_task_has_no_result (cfg : Config) (req : List Tid) (rs : RS) (t : Tid) (o : Outcome)
    (ho : failed o) :
    (processYield cfg req rs t o).taskResults = rs.taskResults ∧
    ∀ kv, kv ∈ (processYield cfg req rs t o).results → kv ∈ rs.results := by
  rcases ho with h | h <;> subst h <;> simp only [processYield] <;>
    (split
     · exact ⟨rfl, fun _ h => h⟩
     · refine ⟨rfl, fun kv h => ?_⟩
       simp only at h
       split at h
       · simp only [removeResults, List.mem_filter] at h; exact h.1
       · exact h)

theorem fail_fast_raises (cfg : Config) (req : List Tid) (rs : RS) (t : Tid) (o : Outcome)
    (ho : failed o) (hc : cfg.contOnFail = false) (s' : TS) (rem : List Tid)
    (hct : completeTask rs.ts t = some (s', rem)) :
    (processYield cfg req rs t o).status = .raised (.labError t) :=
  (processYield_failfast cfg req rs t o ho hc s' rem hct).1

theorem raised_stops_yields (cfg : Config) (req : List Tid) (ys : List (Tid × Outcome)) (rs : RS)
    (e : Err) (h : rs.status = .raised e) : processYields cfg req ys rs = rs :=
  processYields_raised cfg req ys rs e h

/-- once the run has raised, the loop body never runs again: no submit, no process start, no wait -/
theorem raised_stops_loop (cfg : Config) (p : Problem) (req : List Tid) (sched : List Choice) (rs : RS)
    (e : Err) (h : rs.status = .raised e) : runLoop cfg p req sched rs = rs :=
  runLoop_raised cfg p req sched rs e h

theorem failure_completes_task (cfg : Config) (req : List Tid) (rs : RS) (t : Tid) (o : Outcome) (v : Val)
    (s' : TS) (rem : List Tid) (hct : completeTask rs.ts t = some (s', rem)) :
    (processYield cfg req rs t o).ts = (processYield cfg req rs t (.ok v)).ts := by
  cases o <;> simp [processYield, hct]

/-- what a normal return returns: the requested tasks, de-duplicated in request order, that have a captured
    result, each with that result -/
theorem finish_returned (req : List Tid) (rs : RS) (r : List (Tid × Val))
    (h : (finish req rs).status = .returned r) (hr : rs.status = .running) :
    r = (dedup req).filterMap (fun t => (lookup t rs.taskResults).map (fun v => (t, v))) := by
  simp only [finish, hr] at h
  split at h
  · simp [hr] at h
  · exact (Status.returned.inj h).symm

theorem returned_only_captured (req : List Tid) (rs : RS) (r : List (Tid × Val))
    (h : (finish req rs).status = .returned r) (hr : rs.status = .running) :
    ∀ kv ∈ r, kv.1 ∈ req ∧ lookup kv.1 rs.taskResults = some kv.2 := by
  rw [finish_returned req rs r h hr]
  intro kv hkv
  obtain ⟨t, ht, hl⟩ := List.mem_filterMap.mp hkv
  obtain ⟨v, hv, rfl⟩ := Option.map_eq_some_iff.mp hl
  exact ⟨(mem_dedup _ _).mp ht, hv⟩

def exP : Problem where
  tidOf := fun i => i
  children := fun _ => []
  requested := [0, 1]
  ty := fun _ => 0
  maxPar := fun _ => none
  cacheable := fun _ => true
  fails := fun t => t = 0
  dies := fun _ => false
  behave := fun t _ => some (t + 10)

example : (run { backend := .fork, maxWorkers := 2, contOnFail := true, bust := false } exP [] 3
            [⟨fun _ => true⟩, ⟨fun _ => true⟩]).status = .returned [(1, 11)] ∧
          (run { backend := .fork, maxWorkers := 2, contOnFail := false, bust := false } exP [] 3
            [⟨fun _ => true⟩, ⟨fun _ => true⟩]).status = .raised (.labError 0) := by decide +kernel

/-- with `continue_on_failure` the coordinator never raises: every loop-head state is running and
    the run ends running-out-of-schedule or returned -/
theorem failure_isolated_status (cfg : Config) (p : Problem) (store : Store) (fuel : Nat) (sched : List Choice)
    (hcf : cfg.contOnFail = true) :
    (runLoop cfg p (reqTids p) sched (initRS cfg p store fuel)).status = .running ∧
    ∀ e, (run cfg p store fuel sched).status ≠ .raised e := by
  have h1 := loopHead_status_cof cfg p store fuel sched hcf
  refine ⟨h1, ?_⟩
  intro e he
  have h2 : (run cfg p store fuel sched).status = (finish (reqTids p) (loopHead cfg p store fuel sched)).status := rfl
  rw [h2] at he
  simp only [finish, h1] at he
  split at he <;> simp [h1] at he

theorem failure_isolated_returns (cfg : Config) (p : Problem) (store : Store) (fuel : Nat) (sched : List Choice)
    (hcf : cfg.contOnFail = true) (hA : Acyclic p) (hF : FuelOK p fuel) (hL : LimitsPos cfg p)
    (hfair : Fair sched) (hlen : (plan cfg p store fuel).pending.length + 1 ≤ sched.length) :
    ∃ r, (run cfg p store fuel sched).status = .returned r := by
  rcases run_status_cases cfg p store fuel sched with h | h | ⟨t, h⟩
  · exact absurd h (run_terminates cfg p store fuel sched hA hF hL hfair hlen)
  · exact h
  · exact absurd h ((failure_isolated_status cfg p store fuel sched hcf).2 _)

/-- after a raise the rest of the schedule changes nothing: no further submit, start or yield -/
theorem no_start_after_raise (cfg : Config) (p : Problem) (store : Store) (fuel : Nat) (sched more : List Choice)
    (e : Err) (h : (runLoop cfg p (reqTids p) sched (initRS cfg p store fuel)).status = .raised e) :
    runLoop cfg p (reqTids p) (sched ++ more) (initRS cfg p store fuel)
      = runLoop cfg p (reqTids p) sched (initRS cfg p store fuel) := by
  have key : ∀ (s : List Choice) (rs : RS), (runLoop cfg p (reqTids p) s rs).status = .raised e →
      runLoop cfg p (reqTids p) (s ++ more) rs = runLoop cfg p (reqTids p) s rs := by
    intro s
    induction s with
    | nil =>
      intro rs hrs
      simp only [runLoop] at hrs
      exact raised_stops_loop cfg p _ more rs e hrs
    | cons c cs ih =>
      intro rs hrs
      simp only [List.cons_append, runLoop] at hrs ⊢
      split
      · next hrun =>
        simp only [hrun] at hrs
        split
        · next hl => simp only [hl, if_true] at hrs; exact ih _ hrs
        · next hl =>
          simp only [hl] at hrs
          have : rs.status = .raised e := by simpa using hrs
          rw [hrun] at this
      · rfl
  exact key sched _ h

/-- non-vacuity: 2 dies and 1 raises in the diamond; with `continue_on_failure` the run returns
    (3 handles the missing values itself); without it the first failure raises `LabError` -/
example :
    let pr : Problem := { invExP with fails := fun t => t == 1, dies := fun t => t == 2 }
    (run invExCfg pr [] 4 (List.replicate 5 chooseAll)).status = .returned [(3, 3014)] ∧
    (run { invExCfg with contOnFail := false } pr [] 4 (List.replicate 5 chooseAll)).status
      = .raised (.labError 1) := by decide +kernel

/-- the hypotheses of `failure_isolated_returns` are satisfiable together -/
example (be : Backend) :
    ∃ r, (run { invExCfg with backend := be } { invExP with fails := fun t => t == 1, dies := fun t => t == 2 }
      [] 4 (List.replicate 5 chooseAll)).status = .returned r :=
  failure_isolated_returns _ _ [] 4 _ rfl invExP_acyclic invExP_fuel (invEx_limits be 2 (by decide))
    (fair_replicate 5 chooseAll rfl) (by cases be <;> decide +kernel)

/-- what `refEvalF` is, for a task that has an object -/
theorem refEvalF_spec (cfg : Config) (p : Problem) (store : Store) (obj : Tid → Iid) (H : RefHypF p obj) (i : Iid) :
    refEvalF cfg p store obj (p.tidOf i) =
      if diesIn cfg p (p.tidOf i) then none
      else if useCache cfg p store (p.tidOf i) then lookup (p.tidOf i) store
      else if p.fails (p.tidOf i) then none
      else p.behave (p.tidOf i)
        (((p.children (obj (p.tidOf i))).map p.tidOf).map (refEvalF cfg p store obj)) :=
  refEvalF_unfold cfg p store obj H.acyc H.objOK i

/-- a worker can die only under a process backend -/
theorem diesIn_spec (cfg : Config) (p : Problem) (t : Tid) :
    diesIn cfg p t = true ↔ (cfg.backend ≠ .serial ∧ p.dies t = true) := by
  simp only [diesIn]
  split <;> simp_all

/-- the reference outcome: `died` iff the worker dies, else `ok` of the reference value, else `exc` -/
theorem refOutcome_spec (cfg : Config) (p : Problem) (store : Store) (obj : Tid → Iid) (t : Tid) :
    (∀ v, refOutcome cfg p store obj t = .ok v ↔ refEvalF cfg p store obj t = some v) ∧
    (refOutcome cfg p store obj t = .died ↔ diesIn cfg p t = true) ∧
    (refOutcome cfg p store obj t = .exc ↔
      (diesIn cfg p t = false ∧ refEvalF cfg p store obj t = none)) := by
  refine ⟨refOutcome_ok_iff cfg p store obj t, ?_, ?_⟩ <;> simp only [refOutcome] <;>
    cases diesIn cfg p t <;> cases refEvalF cfg p store obj t <;> simp

/-- with `continue_on_failure`, whatever fails, the run returns exactly the requested tasks that have
    a reference value, with that value, in request order. The cache pre-state is arbitrary. -/
theorem unrelated_tasks_return_reference (cfg : Config) (p : Problem) (store : Store) (fuel : Nat)
    (sched : List Choice) (obj : Tid → Iid) (H : RefHypF p obj) (hcf : cfg.contOnFail = true)
    (hF : FuelOK p fuel) (hL : LimitsPos cfg p) (hfair : Fair sched)
    (hlen : (plan cfg p store fuel).pending.length + 1 ≤ sched.length) :
    (run cfg p store fuel sched).status =
      .returned ((dedup (reqTids p)).filterMap
        (fun t => (refEvalF cfg p store obj t).map (fun v => (t, v)))) :=
  run_returns_refF cfg p store fuel sched obj H (Or.inl hcf) hF hL hfair hlen

/-- membership form: `(t, v)` is returned iff `t` was requested and `v` is its reference value -/
theorem returned_iff_reference (cfg : Config) (p : Problem) (store : Store) (fuel : Nat)
    (sched : List Choice) (obj : Tid → Iid) (H : RefHypF p obj) (hcf : cfg.contOnFail = true)
    (hF : FuelOK p fuel) (hL : LimitsPos cfg p) (hfair : Fair sched)
    (hlen : (plan cfg p store fuel).pending.length + 1 ≤ sched.length) :
    ∃ r, (run cfg p store fuel sched).status = .returned r ∧
      ∀ t v, (t, v) ∈ r ↔ (t ∈ reqTids p ∧ refEvalF cfg p store obj t = some v) := by
  refine ⟨_, unrelated_tasks_return_reference cfg p store fuel sched obj H hcf hF hL hfair hlen, fun t v => ?_⟩
  simp only [List.mem_filterMap, mem_dedup, Option.map_eq_some_iff, Prod.mk.injEq]
  constructor
  · rintro ⟨a, ha, w, hw, rfl, rfl⟩; exact ⟨ha, hw⟩
  · rintro ⟨ht, hv⟩; exact ⟨t, ht, v, hv, rfl, rfl⟩

/-- the same equation without `continue_on_failure`, when no planned task fails -/
theorem reference_when_nothing_fails (cfg : Config) (p : Problem) (store : Store) (fuel : Nat)
    (sched : List Choice) (obj : Tid → Iid) (H : RefHypF p obj)
    (hnf : ∀ t ∈ (plan cfg p store fuel).pending, (refEvalF cfg p store obj t).isSome)
    (hF : FuelOK p fuel) (hL : LimitsPos cfg p) (hfair : Fair sched)
    (hlen : (plan cfg p store fuel).pending.length + 1 ≤ sched.length) :
    (run cfg p store fuel sched).status =
      .returned ((dedup (reqTids p)).filterMap
        (fun t => (refEvalF cfg p store obj t).map (fun v => (t, v)))) :=
  run_returns_refF cfg p store fuel sched obj H (Or.inr hnf) hF hL hfair hlen

/-- every outcome handed to the coordinator, at any point of any run (no fairness needed), is the
    reference outcome of its task -/
theorem every_yield_is_refF (cfg : Config) (p : Problem) (store : Store) (fuel : Nat)
    (sched : List Choice) (obj : Tid → Iid) (H : RefHypF p obj) (hcf : cfg.contOnFail = true)
    (t : Tid) (o : Outcome) (h : Ev.yield t o ∈ (run cfg p store fuel sched).trace) :
    o = refOutcome cfg p store obj t ∧ ∀ v, o = .ok v ↔ refEvalF cfg p store obj t = some v := by
  rw [run_trace] at h
  have := (loopHead_val cfg p store fuel sched obj H (Or.inl hcf)).yOk t o h
  refine ⟨this, fun v => ?_⟩
  rw [this]
  exact refOutcome_ok_iff cfg p store obj t v

/-- what `storeAfter` is: an executed, successful task of a cacheable type saved its value;
    everything else leaves the pre-state entry (or its absence) -/
theorem storeAfter_spec (cfg : Config) (p : Problem) (store : Store) (obj : Tid → Iid) (t : Tid) :
    (∀ v, useCache cfg p store t = false → p.cacheable (p.ty t) = true →
      refEvalF cfg p store obj t = some v → storeAfter cfg p store obj t = some v) ∧
    ((useCache cfg p store t = true ∨ p.cacheable (p.ty t) = false ∨ refEvalF cfg p store obj t = none) →
      storeAfter cfg p store obj t = lookup t store) := by
  constructor
  · intro v h1 h2 h3
    simp [storeAfter, h1, h2, h3]
  · intro h
    simp only [storeAfter]
    split
    · next hc =>
      rcases h with h | h | h
      · rw [hc.1] at h; cases h
      · rw [hc.2] at h; cases h
      · rw [h]
    · rfl

/-- the store at every loop head: pre-state, overridden by `storeAfter` for the tasks delivered so far -/
theorem store_at_loop_head (cfg : Config) (p : Problem) (store : Store) (fuel : Nat) (sched : List Choice)
    (obj : Tid → Iid) (H : RefHypF p obj) (hcf : cfg.contOnFail = true) (t : Tid) :
    lookup t (runLoop cfg p (reqTids p) sched (initRS cfg p store fuel)).store =
      if t ∈ yieldedOf (runLoop cfg p (reqTids p) sched (initRS cfg p store fuel)).trace
      then storeAfter cfg p store obj t else lookup t store :=
  loopHead_store cfg p store fuel sched obj H (Or.inl hcf) t

/-- the final store, as a map: the pre-state overridden by `(t, refEvalF t)` for exactly the planned
    tasks that were not cached beforehand, are cacheable and have a reference value; nothing else
    changes (in particular no entry for a failed task, none for a key outside the plan) -/
theorem store_after_run (cfg : Config) (p : Problem) (store : Store) (fuel : Nat)
    (sched : List Choice) (obj : Tid → Iid) (H : RefHypF p obj) (hcf : cfg.contOnFail = true)
    (hF : FuelOK p fuel) (hL : LimitsPos cfg p) (hfair : Fair sched)
    (hlen : (plan cfg p store fuel).pending.length + 1 ≤ sched.length) (t : Tid) :
    lookup t (run cfg p store fuel sched).store =
      if t ∈ (plan cfg p store fuel).pending then storeAfter cfg p store obj t else lookup t store := by
  have hr := loopHead_val cfg p store fuel sched obj H (Or.inl hcf)
  obtain ⟨_, hall⟩ := loopHead_all_yielded cfg p store fuel sched H.acyc hF hL hfair hlen hr.run
  rw [run_store, loopHead_store cfg p store fuel sched obj H (Or.inl hcf) t]
  by_cases h : t ∈ (plan cfg p store fuel).pending
  · rw [if_pos h, if_pos ((hall t).mp h)]
  · rw [if_neg h, if_neg (fun h' => h ((hall t).mpr h'))]

/-- the diamond with the duplicated object in which 1 raises and 2's worker dies -/
def failP : Problem := { invExP with fails := fun t => t == 1, dies := fun t => t == 2 }

theorem failP_refHypF : RefHypF failP id where
  acyc := invExP_acyclic
  inst := by
    intro i j h
    by_cases hij : i = j
    · rw [hij]
    · -- two objects of one task: 0 and its duplicate 4, both without parameters
      have h04 : (i = 0 ∨ i = 4) ∧ (j = 0 ∨ j = 4) := by
        simp only [failP, invExP] at h
        split at h <;> split at h
        · exact ⟨.inr ‹_›, .inr ‹_›⟩
        · exact ⟨.inr ‹_›, .inl h.symm⟩
        · exact ⟨.inl h, .inr ‹_›⟩
        · exact absurd h hij
      rcases h04 with ⟨rfl | rfl, rfl | rfl⟩ <;> rfl
  objOK := by
    intro i
    by_cases h : i = 4
    · rw [h]; rfl
    · simp only [failP, invExP, id, h, if_false]

/-- non-vacuity, concrete: an UNSOUND warm cache (0 ↦ 5; the task would compute 0), 1 raises, 2 dies
    (fork) or does not (serial, no worker process): 3 reads the failed ones as missing and is the only
    requested task with a value; the store gains exactly the executed successful tasks -/
example :
    (run invExCfg failP [(0, 5)] 4 (List.replicate 5 chooseAll)).status = .returned [(3, 3014)] ∧
    (dedup (reqTids failP)).filterMap (fun t => (refEvalF invExCfg failP [(0, 5)] id t).map (fun v => (t, v)))
      = [(3, 3014)] ∧
    (run invExCfg failP [(0, 5)] 4 (List.replicate 5 chooseAll)).store = [(3, 3014), (0, 5)] ∧
    [0, 1, 2, 3].map (storeAfter invExCfg failP [(0, 5)] id) = [some 5, none, none, some 3014] ∧
    (run { invExCfg with backend := .serial } failP [(0, 5)] 4 (List.replicate 5 chooseAll)).status
      = .returned [(3, 5012)] ∧
    (dedup (reqTids failP)).filterMap
      (fun t => (refEvalF { invExCfg with backend := .serial } failP [(0, 5)] id t).map (fun v => (t, v)))
      = [(3, 5012)] ∧
    Ev.yield 2 .died ∈ (run invExCfg failP [(0, 5)] 4 (List.replicate 5 chooseAll)).trace ∧
    refOutcome invExCfg failP [(0, 5)] id 2 = .died ∧ refOutcome invExCfg failP [(0, 5)] id 1 = .exc := by
  decide +kernel

/-- the hypotheses of `unrelated_tasks_return_reference` / `store_after_run` are satisfiable together -/
example (be : Backend) :
    (run { invExCfg with backend := be } failP [(0, 5)] 4 (List.replicate 5 chooseAll)).status =
      .returned ((dedup (reqTids failP)).filterMap
        (fun t => (refEvalF { invExCfg with backend := be } failP [(0, 5)] id t).map (fun v => (t, v)))) :=
  unrelated_tasks_return_reference _ failP [(0, 5)] 4 _ id failP_refHypF rfl invExP_fuel
    (invEx_limits be 2 (by decide)) (fair_replicate 5 chooseAll rfl) (by cases be <;> decide +kernel)

/-- the fuel hypothesis of the theorems below is implied by `FuelOK` -/
theorem fuelOK_pos_or_nil {p : Problem} {fuel : Nat} (hF : FuelOK p fuel) : 0 < fuel ∨ p.requested = [] :=
  hF.pos_or_nil

/-- a failed reference outcome means: no reference value -/
theorem failed_refOutcome_none (cfg : Config) (p : Problem) (store : Store) (obj : Tid → Iid) (t : Tid)
    (h : failed (refOutcome cfg p store obj t)) : refEvalF cfg p store obj t = none := by
  cases hv : refEvalF cfg p store obj t with
  | none => rfl
  | some v =>
    have := (refOutcome_ok_iff cfg p store obj t v).mpr hv
    rw [this] at h
    rcases h with h | h <;> cases h

/-- If `run_tasks` raises `LabError` for task `t`, then `continue_on_failure` was off and `t` is
    the FIRST failure handed to the coordinator: the trace ENDS with the yield `(t, o)` (after the raise
    nothing is submitted, started or yielded), `o` is a failure (`exc` or `died`) and is the reference
    outcome of `t`, so `t` has no value by the plain sequential reference semantics (it raises, its
    worker dies, or it lets a failed dependency's `TaskError` propagate); every yield before it belongs
    to another task, is a success `ok v`, and `v` is that task's reference value. -/
theorem labError_is_first_reference_failure (cfg : Config) (p : Problem) (store : Store) (fuel : Nat)
    (sched : List Choice) (obj : Tid → Iid) (H : RefHypF p obj) (t : Tid)
    (h : (run cfg p store fuel sched).status = .raised (.labError t)) :
    cfg.contOnFail = false ∧
    ∃ o pre, (run cfg p store fuel sched).trace = pre ++ [Ev.yield t o] ∧
      Ev.yield t o ∈ (run cfg p store fuel sched).trace ∧
      failed o ∧ o = refOutcome cfg p store obj t ∧ refEvalF cfg p store obj t = none ∧
      ∀ t' o', Ev.yield t' o' ∈ pre →
        t' ≠ t ∧ o' = refOutcome cfg p store obj t' ∧
        ∃ v, o' = .ok v ∧ refEvalF cfg p store obj t' = some v := by
  have hl := (run_raised_iff_loopHead cfg p store fuel sched _).mp h
  obtain ⟨hcf, o, pre, htr, hfail, ho, hpre, hnot⟩ := loopHead_raised cfg p store fuel sched obj H t hl
  refine ⟨hcf, o, pre, ?_, ?_, hfail, ho, ?_, ?_⟩
  · rw [run_trace]; exact htr
  · rw [run_trace, htr]; simp
  · apply failed_refOutcome_none
    rw [← ho]; exact hfail
  · intro t' o' h'
    obtain ⟨h1, v, hv⟩ := hpre t' o' h'
    refine ⟨?_, h1, v, hv, ?_⟩
    · intro heq; subst heq; exact hnot o' h'
    · rw [← refOutcome_ok_iff, ← h1]; exact hv

/-- `every_yield_is_refF` for EVERY configuration: every outcome handed to the
    coordinator at any point of any run, fail-fast or not, is the reference outcome of its task -/
theorem every_yield_is_refF_any_config (cfg : Config) (p : Problem) (store : Store) (fuel : Nat)
    (sched : List Choice) (obj : Tid → Iid) (H : RefHypF p obj)
    (t : Tid) (o : Outcome) (h : Ev.yield t o ∈ (run cfg p store fuel sched).trace) :
    o = refOutcome cfg p store obj t ∧ ∀ v, o = .ok v ↔ refEvalF cfg p store obj t = some v := by
  rw [run_trace] at h
  have := loopHead_yOk cfg p store fuel sched obj H t o h
  refine ⟨this, fun v => ?_⟩
  rw [this]
  exact refOutcome_ok_iff cfg p store obj t v

/-- while a fail-fast coordinator has not raised, no failure has been handed to it -/
theorem fail_fast_running_no_failure (cfg : Config) (p : Problem) (store : Store) (fuel : Nat)
    (sched : List Choice) (obj : Tid → Iid) (H : RefHypF p obj) (hcf : cfg.contOnFail = false)
    (hrun : (loopHead cfg p store fuel sched).status = .running)
    (t : Tid) (o : Outcome) (h : Ev.yield t o ∈ (loopHead cfg p store fuel sched).trace) :
    ∃ v, o = .ok v ∧ refEvalF cfg p store obj t = some v := by
  obtain ⟨hr, ha⟩ := loopHead_running_val cfg p store fuel sched obj H hrun
  rcases ha with ha | ha
  · rw [hcf] at ha; cases ha
  · obtain ⟨v, hv⟩ := ha t o h
    refine ⟨v, hv, ?_⟩
    rw [← refOutcome_ok_iff, ← hr.yOk t o h]; exact hv

/-- `run_tasks` never raises `KeyError` (any configuration; restated from the master invariant,
    cf. `Props.C11.no_keyerror`) -/
theorem fail_fast_never_keyerror (cfg : Config) (p : Problem) (store : Store) (fuel : Nat)
    (sched : List Choice) : (run cfg p store fuel sched).status ≠ .raised .keyError := by
  rcases run_status_cases cfg p store fuel sched with h | ⟨r, h⟩ | ⟨t, h⟩ <;> rw [h] <;> simp

/-- whenever `run_tasks` returns — any configuration, any schedule, no fairness — it returns
    exactly the requested tasks that have a reference value, with that value, in request order, and
    every planned task was handed to the coordinator (`0 < fuel ∨ requested = []` follows from
    `FuelOK`, see `fuelOK_pos_or_nil`) -/
theorem returned_is_reference (cfg : Config) (p : Problem) (store : Store) (fuel : Nat)
    (sched : List Choice) (obj : Tid → Iid) (H : RefHypF p obj) (hfuel : 0 < fuel ∨ p.requested = [])
    (r : List (Tid × Val)) (h : (run cfg p store fuel sched).status = .returned r) :
    r = (dedup (reqTids p)).filterMap (fun t => (refEvalF cfg p store obj t).map (fun v => (t, v))) ∧
    ∀ t ∈ (plan cfg p store fuel).pending, ∃ o, Ev.yield t o ∈ (run cfg p store fuel sched).trace := by
  obtain ⟨_, hall, hr⟩ := run_returned_refF cfg p store fuel sched obj H hfuel r h
  refine ⟨hr, fun t ht => ?_⟩
  rw [run_trace, ← mem_yieldedOf]
  exact (hall t).mp ht

/-- if a fail-fast `run_tasks` returns, then no failure was ever handed to the coordinator, in
    fact no planned task fails at all by the reference semantics (`NoFailure`), and the result is the
    reference result -/
theorem fail_fast_returned_no_failure (cfg : Config) (p : Problem) (store : Store) (fuel : Nat)
    (sched : List Choice) (obj : Tid → Iid) (H : RefHypF p obj) (hcf : cfg.contOnFail = false)
    (hfuel : 0 < fuel ∨ p.requested = [])
    (r : List (Tid × Val)) (h : (run cfg p store fuel sched).status = .returned r) :
    (∀ t o, Ev.yield t o ∈ (run cfg p store fuel sched).trace →
      ∃ v, o = .ok v ∧ refEvalF cfg p store obj t = some v) ∧
    NoFailure cfg p store obj fuel ∧
    r = (dedup (reqTids p)).filterMap (fun t => (refEvalF cfg p store obj t).map (fun v => (t, v))) := by
  obtain ⟨hrun, hall, hr⟩ := run_returned_refF cfg p store fuel sched obj H hfuel r h
  have hno : ∀ t o, Ev.yield t o ∈ (run cfg p store fuel sched).trace →
      ∃ v, o = .ok v ∧ refEvalF cfg p store obj t = some v := by
    intro t o ho
    rw [run_trace] at ho
    exact fail_fast_running_no_failure cfg p store fuel sched obj H hcf hrun t o ho
  refine ⟨hno, ?_, hr⟩
  intro t ht
  obtain ⟨o, ho⟩ := (mem_yieldedOf _ _).mp ((hall t).mp ht)
  rw [← run_trace] at ho
  obtain ⟨v, _, hv⟩ := hno t o ho
  rw [hv]; rfl

/-- the three ways a fail-fast run can end (or not yet have ended: `running` = the schedule ran
    out), with what each means -/
theorem fail_fast_status_cases (cfg : Config) (p : Problem) (store : Store) (fuel : Nat)
    (sched : List Choice) (obj : Tid → Iid) (H : RefHypF p obj) (hcf : cfg.contOnFail = false)
    (hfuel : 0 < fuel ∨ p.requested = []) :
    ((run cfg p store fuel sched).status = .running ∧
      ∀ t o, Ev.yield t o ∈ (run cfg p store fuel sched).trace →
        ∃ v, o = .ok v ∧ refEvalF cfg p store obj t = some v) ∨
    (∃ r, (run cfg p store fuel sched).status = .returned r ∧
      (∀ t o, Ev.yield t o ∈ (run cfg p store fuel sched).trace →
        ∃ v, o = .ok v ∧ refEvalF cfg p store obj t = some v) ∧
      NoFailure cfg p store obj fuel ∧
      r = (dedup (reqTids p)).filterMap (fun t => (refEvalF cfg p store obj t).map (fun v => (t, v)))) ∨
    (∃ t, (run cfg p store fuel sched).status = .raised (.labError t) ∧
      refEvalF cfg p store obj t = none ∧
      ∃ o pre, (run cfg p store fuel sched).trace = pre ++ [Ev.yield t o] ∧ failed o ∧
        ∀ t' o', Ev.yield t' o' ∈ pre → ∃ v, o' = .ok v ∧ refEvalF cfg p store obj t' = some v) := by
  rcases run_status_cases cfg p store fuel sched with h | ⟨r, h⟩ | ⟨t, h⟩
  · left
    refine ⟨h, ?_⟩
    have hfin : (run cfg p store fuel sched).status =
        (finish (reqTids p) (loopHead cfg p store fuel sched)).status := rfl
    have hrun : (loopHead cfg p store fuel sched).status = .running := by
      rcases finish_status_cases (reqTids p) (loopHead cfg p store fuel sched) with h' | ⟨h', _⟩
      · rw [← h', ← hfin]; exact h
      · exact h'
    intro t o ho
    rw [run_trace] at ho
    exact fail_fast_running_no_failure cfg p store fuel sched obj H hcf hrun t o ho
  · right; left
    exact ⟨r, h, fail_fast_returned_no_failure cfg p store fuel sched obj H hcf hfuel r h⟩
  · right; right
    obtain ⟨_, o, pre, htr, _, hfail, _, hnone, hpre⟩ :=
      labError_is_first_reference_failure cfg p store fuel sched obj H t h
    refine ⟨t, h, hnone, o, pre, htr, hfail, ?_⟩
    intro t' o' h'
    obtain ⟨_, _, v, hv⟩ := hpre t' o' h'
    exact ⟨v, hv⟩

/-- three independent tasks: 0 raises, the worker of 1 dies, 2 succeeds -/
def ffP : Problem where
  tidOf := fun i => i
  children := fun _ => []
  requested := [0, 1, 2]
  ty := fun _ => 0
  maxPar := fun _ => none
  cacheable := fun _ => true
  fails := fun t => t == 0
  dies := fun t => t == 1
  behave := fun t _ => some (t + 10)

def ffCfg : Config := { backend := .fork, maxWorkers := 3, contOnFail := false, bust := false }

theorem ffP_refHypF : RefHypF ffP id where
  acyc := by intro i c h; simp [ffP] at h
  inst := by intro i j _; rfl
  objOK := by intro i; rfl

/-- the yields of a trace, in order -/
def yieldsOf (tr : List Ev) : List (Tid × Outcome) :=
  tr.filterMap (fun e => match e with | .yield t o => some (t, o) | _ => none)

/-- non-vacuity, concrete: two failing tasks, the schedule decides which one is reported. All
    three workers run at once; if worker 0's outcome becomes visible first the run raises
    `LabError 0`, if worker 1's death does, `LabError 1`; if the
    successful task 2 is delivered first and then both failures at once, its yield `ok 12` precedes
    the failing yield of 0 (first in `future_to_task` order) and 1 is never handed over. In every case
    the failing yield is the last event of the trace and is the task's reference outcome. -/
example :
    (run ffCfg ffP [] 3 [⟨fun i => i == 0⟩, chooseAll]).status = .raised (.labError 0) ∧
    (run ffCfg ffP [] 3 [⟨fun i => i == 1⟩, chooseAll]).status = .raised (.labError 1) ∧
    (run ffCfg ffP [] 3 [⟨fun i => i == 2⟩, chooseAll, chooseAll]).status = .raised (.labError 0) ∧
    yieldsOf (run ffCfg ffP [] 3 [⟨fun i => i == 0⟩, chooseAll]).trace = [(0, .exc)] ∧
    yieldsOf (run ffCfg ffP [] 3 [⟨fun i => i == 1⟩, chooseAll]).trace = [(1, .died)] ∧
    yieldsOf (run ffCfg ffP [] 3 [⟨fun i => i == 2⟩, chooseAll, chooseAll]).trace = [(2, .ok 12), (0, .exc)] ∧
    (run ffCfg ffP [] 3 [⟨fun i => i == 0⟩, chooseAll]).trace.getLast? = some (Ev.yield 0 .exc) ∧
    (run ffCfg ffP [] 3 [⟨fun i => i == 1⟩, chooseAll]).trace.getLast? = some (Ev.yield 1 .died) ∧
    (run ffCfg ffP [] 3 [⟨fun i => i == 2⟩, chooseAll, chooseAll]).trace.getLast? = some (Ev.yield 0 .exc) ∧
    [0, 1, 2].map (refOutcome ffCfg ffP [] id) = [.exc, .died, .ok 12] ∧
    [0, 1, 2].map (refEvalF ffCfg ffP [] id) = [none, none, some 12] ∧
    -- with continue_on_failure the same schedules return the unrelated task's value
    (run { ffCfg with contOnFail := true } ffP [] 3 [⟨fun i => i == 1⟩, chooseAll, chooseAll]).status
      = .returned [(2, 12)] := by
  decide +kernel

/-- the hypotheses of `labError_is_first_reference_failure` / `fail_fast_status_cases` are satisfiable
    together, and the conclusion for both reported tasks -/
example :
    (∃ pre, (run ffCfg ffP [] 3 [⟨fun i => i == 0⟩, chooseAll]).trace = pre ++ [Ev.yield 0 .exc]) ∧
    (∃ pre, (run ffCfg ffP [] 3 [⟨fun i => i == 1⟩, chooseAll]).trace = pre ++ [Ev.yield 1 .died]) := by
  constructor
  · obtain ⟨_, o, pre, htr, _, _, ho, _⟩ :=
      labError_is_first_reference_failure ffCfg ffP [] 3 [⟨fun i => i == 0⟩, chooseAll] id ffP_refHypF 0 (by decide +kernel)
    have : refOutcome ffCfg ffP [] id 0 = .exc := by decide +kernel
    rw [this] at ho; subst ho
    exact ⟨pre, htr⟩
  · obtain ⟨_, o, pre, htr, _, _, ho, _⟩ :=
      labError_is_first_reference_failure ffCfg ffP [] 3 [⟨fun i => i == 1⟩, chooseAll] id ffP_refHypF 1 (by decide +kernel)
    have : refOutcome ffCfg ffP [] id 1 = .died := by decide +kernel
    rw [this] at ho; subst ho
    exact ⟨pre, htr⟩

/-- and of `fail_fast_returned_no_failure` (`ffP` with no raising and no dying task: the fail-fast run returns, so `NoFailure`) -/
example :
    let pr : Problem := { ffP with fails := fun _ => false, dies := fun _ => false }
    NoFailure ffCfg pr [] id 3 :=
  (fail_fast_returned_no_failure ffCfg _ [] 3 [chooseAll, chooseAll] id
    ⟨by intro i c h; simp [ffP] at h, by intro i j _; rfl, by intro i; rfl⟩ rfl (Or.inl (by decide +kernel))
    [(0, 10), (1, 11), (2, 12)] (by decide +kernel)).2.1

end Lt.Props.C10
