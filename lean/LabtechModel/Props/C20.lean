import LabtechModel.Proofs.Diagram
/-!
# C20 — The task diagram shows every reachable type and relationship

All statements are about `Lt.Diag.build` / `Lt.Diag.buildTaskDiagram` (Model/Diagram.lean), for every
list of tasks over the value grammar (any number of types, any nesting depth, any size).

* reachable tasks = `subQueue tasks`: every task sub-term of the input, at any depth, through
  collections and through tasks (duplicates kept);
* "task `t` holds in parameter `p` a task of type `D`" = `(p, v) ∈ t.fields` and some
  `d ∈ findTasks v` has `d.ty = D` (`findTasks` goes through tuples / dict values at any depth and
  stops at tasks).

Proved:
* `build_fuel_sufficient`, `build_visits_all` — the `found_tasks` loop needs exactly as many
  iterations as there are task sub-terms; with that fuel (or more) it pops every reachable task
  exactly as often as it occurs (the visiting order is a permutation of `subQueue`), so the loop
  terminates and nothing reachable is skipped;
* `build_types`, `build_types_nodup`, `build_types_order` — the recorded types are exactly the
  types of the reachable tasks, each once, in first-visited order;
* `build_rels`, `build_rels_nodup`, `build_entry` — the relationships recorded for a type `T` are
  exactly the `(p, D)` with some reachable task of type `T` holding in `p` a task of type `D`, each
  once; the structure has exactly one entry per type;
* `many_iff` — the flag of `(T, p, D)` is set iff some reachable task of type `T` holds a task of
  type `D` in a parameter `p` whose value is not itself a task;
* `addRel_recorded` — the `KeyError` branch of `add_relationship` is not reachable from `build`;
* `render_shape_classes`, `render_shape_block`, `render_shape_arrows`, `render_shape_groups`,
  `render_defined` — one class block per structure entry, in order, each = one `class` line, one line
  per field, one `run()` line; one arrow line per recorded relationship carrying `"many"` exactly when the
  flag is set; one arrow group per type that has relationships; the text is defined whenever every
  reachable type has a table entry.
Determinism: `buildTaskDiagram` is a function.
-/
namespace Lt.Props.C20
open Lt.Diag

/-- the visiting order of `build` -/
def bfs (tasks : List Task) : List Task := visit (sizeQueue tasks) tasks

/-- `t` holds in parameter `p` (value `v`) a task of type `D` -/
def Holds (t : Task) (p : String) (v : Value) (D : Nat) : Prop :=
  (p, v) ∈ t.fields ∧ ∃ d ∈ findTasks v, d.ty = D

theorem build_eq (tasks : List Task) : build tasks = (bfs tasks).foldl processTask [] := by
  simp [build, bfs, buildLoop_eq_fold]

/-- more fuel than the number of task sub-terms changes nothing: the loop has stopped by then -/
theorem build_fuel_sufficient (tasks : List Task) (n : Nat) (h : sizeQueue tasks ≤ n) :
    buildLoop n tasks [] = build tasks := by
  simp only [build, buildLoop_eq_fold]
  rw [visit_fuel n tasks h]

/-- the loop pops every reachable task, exactly as often as it occurs as a sub-term -/
theorem build_visits_all (tasks : List Task) : (bfs tasks).Perm (subQueue tasks) :=
  visit_perm tasks

theorem mem_bfs (tasks : List Task) (t : Task) : t ∈ bfs tasks ↔ t ∈ subQueue tasks :=
  (build_visits_all tasks).mem_iff

/-- class blocks: a type is recorded iff it is the type of a reachable task -/
theorem build_types (tasks : List Task) (T : Nat) :
    T ∈ types (build tasks) ↔ ∃ t ∈ subQueue tasks, t.ty = T := by
  rw [build_eq, types_fold, mem_firstSeen]
  simp only [types, List.map_nil, List.not_mem_nil, false_or, List.mem_map]
  constructor
  · rintro ⟨t, ht, rfl⟩; exact ⟨t, (mem_bfs tasks t).mp ht, rfl⟩
  · rintro ⟨t, ht, rfl⟩; exact ⟨t, (mem_bfs tasks t).mpr ht, rfl⟩

/-- … each once … -/
theorem build_types_nodup (tasks : List Task) : (types (build tasks)).Nodup := by
  rw [build_eq, types_fold]
  exact nodup_firstSeen _ _ (by simp [types])

/-- … in first-visited order -/
theorem build_types_order (tasks : List Task) :
    types (build tasks) = firstSeen [] ((bfs tasks).map Task.ty) := by
  rw [build_eq, types_fold]; rfl

/-- the structure has exactly one entry per recorded type: its relationships are `getRels` -/
theorem build_entry (tasks : List Task) (T : Nat) (r : Rels) :
    (T, r) ∈ build tasks ↔ T ∈ types (build tasks) ∧ r = getRels (build tasks) T :=
  mem_iff_getRels _ T r (build_types_nodup tasks)

/-- arrows: `(p, D)` is recorded for `T` iff some reachable task of type `T` holds in `p` a task of type `D` -/
theorem build_rels (tasks : List Task) (T : Nat) (p : String) (D : Nat) :
    (p, D) ∈ keys (getRels (build tasks) T) ↔
      ∃ t ∈ subQueue tasks, t.ty = T ∧ ∃ v, Holds t p v D := by
  rw [build_eq, getRels_fold, mem_keys_relsAddAll]
  simp only [getRels, keys, List.map_nil, List.not_mem_nil, false_or, List.mem_map, mem_relsOf, Holds]
  constructor
  · rintro ⟨⟨k, m⟩, ⟨t, ht, hT, hm⟩, rfl⟩
    obtain ⟨v, hv, hd, _⟩ := mem_taskRels.mp hm
    exact ⟨t, (mem_bfs tasks t).mp ht, hT, v, hv, hd⟩
  · rintro ⟨t, ht, hT, v, hv, hd⟩
    exact ⟨((p, D), !v.isTask),
      ⟨t, (mem_bfs tasks t).mpr ht, hT, mem_taskRels.mpr ⟨v, hv, hd, rfl⟩⟩, rfl⟩

/-- … each once -/
theorem build_rels_nodup (tasks : List Task) (T : Nat) : (keys (getRels (build tasks) T)).Nodup := by
  rw [build_eq, getRels_fold]
  exact nodup_keys_relsAddAll _ _ .nil

/-- "many": the relationship `(T, p, D)` carries the flag iff in at least one reachable task of type `T`
the parameter `p` is not itself a task and contains a task of type `D` -/
theorem many_iff (tasks : List Task) (T : Nat) (p : String) (D : Nat) :
    ((p, D), true) ∈ getRels (build tasks) T ↔
      ∃ t ∈ subQueue tasks, t.ty = T ∧ ∃ v, Holds t p v D ∧ v.isTask = false := by
  rw [← flag_iff_mem (build_rels_nodup tasks T), build_eq, getRels_fold, flag_relsAddAll, mem_relsOf]
  simp only [getRels, flag, Bool.false_eq_true, false_or, Holds]
  constructor
  · rintro ⟨t, ht, hT, hm⟩
    obtain ⟨v, hv, hd, hmv⟩ := mem_taskRels.mp hm
    refine ⟨t, (mem_bfs tasks t).mp ht, hT, v, ⟨hv, hd⟩, ?_⟩
    cases hvt : v.isTask <;> simp [hvt] at hmv ⊢
  · rintro ⟨t, ht, hT, v, ⟨hv, hd⟩, hvt⟩
    exact ⟨t, (mem_bfs tasks t).mpr ht, hT, mem_taskRels.mpr ⟨v, hv, hd, by simp [hvt]⟩⟩

/-- a recorded relationship that is not flagged: the parameter is a task itself in every reachable holder -/
theorem single_iff (tasks : List Task) (T : Nat) (p : String) (D : Nat) :
    ((p, D), false) ∈ getRels (build tasks) T ↔
      (∃ t ∈ subQueue tasks, t.ty = T ∧ ∃ v, Holds t p v D) ∧
      ∀ t ∈ subQueue tasks, t.ty = T → ∀ v, Holds t p v D → v.isTask = true := by
  have hnd := build_rels_nodup tasks T
  constructor
  · intro h
    have hk : (p, D) ∈ keys (getRels (build tasks) T) := List.mem_map.mpr ⟨_, h, rfl⟩
    refine ⟨(build_rels tasks T p D).mp hk, ?_⟩
    intro t ht hT v hv
    cases hvt : v.isTask with
    | true => rfl
    | false =>
      have hm := (many_iff tasks T p D).mpr ⟨t, ht, hT, v, hv, hvt⟩
      -- the key occurs once, so it cannot carry both flags
      have := flag_of_mem hnd h
      rw [flag_of_mem hnd hm] at this
      cases this
  · rintro ⟨hex, hall⟩
    have hk := (build_rels tasks T p D).mpr hex
    obtain ⟨⟨k, m⟩, hmem, hkeq⟩ := List.mem_map.mp hk
    simp only at hkeq
    subst hkeq
    cases m with
    | false => exact hmem
    | true =>
      obtain ⟨t, ht, hT, v, hv, hvt⟩ := (many_iff tasks T p D).mp hmem
      have := hall t ht hT v hv
      rw [this] at hvt
      exact Bool.noConfusion hvt

/-- `add_relationship` is only called for a type that `build` has already recorded (no `KeyError`) -/
theorem addRel_recorded (s : Struct) (t : Task) :
    ∀ l : List (RelKey × Bool),
      t.ty ∈ types (l.foldl (fun s r => addRel s t.ty r.1 r.2) (addType s t.ty)) := by
  intro l
  rw [(addRelAll_spec t.ty l _ (mem_types_addType s t.ty)).1]
  exact mem_types_addType s t.ty

/-- one class block per structure entry, in the structure's order, rendered from the type's table entry -/
theorem render_shape_classes (tbl : TypeTable) : ∀ (s : Struct) (bs : List (List String)),
    classBlocks tbl s = some bs →
      Forall2 (fun e b => ∃ i, lookupType tbl e.1 = some i ∧ b = typeLines i) s bs := by
  intro s
  induction s with
  | nil => intro bs h; simp only [classBlocks, Option.some.injEq] at h; subst h; exact Forall2.nil
  | cons e rest ih =>
    intro bs h
    obtain ⟨ty, r⟩ := e
    simp only [classBlocks] at h
    split at h
    · next i bs' hl hr => cases h; exact Forall2.cons ⟨i, hl, rfl⟩ (ih bs' hr)
    · cases h

/-- a class block is one `class` line, one line per field (in order), one `run()` line -/
theorem render_shape_block (i : TypeInfo) :
    typeLines i = ("class " ++ i.name) :: (i.fields.map (fun f => i.name ++ " : " ++ f.1 ++ " " ++ f.2)
        ++ [i.name ++ " : run()" ++ runSuffix i.ret])
    ∧ (typeLines i).length = i.fields.length + 2 := by
  simp [typeLines]

/-- one arrow line per recorded relationship, in order; `"many" ` appears exactly when the flag is set -/
theorem render_shape_arrows (tbl : TypeTable) (fromName : String) : ∀ (r : Rels) (ls : List String),
    relLines tbl fromName r = some ls →
      Forall2 (fun e l => ∃ di, lookupType tbl e.1.2 = some di ∧
          l = fromName ++ " <-- " ++ (if e.2 then "\"many\" " else "") ++ di.name ++ ": " ++ e.1.1) r ls := by
  intro r
  induction r with
  | nil => intro ls h; simp only [relLines, Option.some.injEq] at h; subst h; exact Forall2.nil
  | cons e rest ih =>
    intro ls h
    obtain ⟨⟨p, d⟩, m⟩ := e
    simp only [relLines] at h
    split at h
    · next di ls' hl hr => cases h; exact Forall2.cons ⟨di, hl, rfl⟩ (ih ls' hr)
    · cases h

/-- one arrow group per type that has at least one relationship, in the structure's order -/
theorem render_shape_groups (tbl : TypeTable) : ∀ (s : Struct) (bs : List (List String)),
    relBlocks tbl s = some bs →
      Forall2 (fun e b => ∃ i, lookupType tbl e.1 = some i ∧ relLines tbl i.name e.2 = some b)
        (s.filter (fun e => !e.2.isEmpty)) bs := by
  intro s
  induction s with
  | nil => intro bs h; simp only [relBlocks, Option.some.injEq] at h; subst h; exact Forall2.nil
  | cons e rest ih =>
    intro bs h
    obtain ⟨ty, r⟩ := e
    simp only [relBlocks] at h
    split at h
    · next i bs' hl hr =>
      cases hemp : r.isEmpty with
      | true =>
        simp only [hemp, if_true, Option.some.injEq] at h
        subst h
        simp only [List.filter_cons, hemp, Bool.not_true, Bool.false_eq_true, if_false]
        exact ih bs' hr
      | false =>
        simp only [hemp, Bool.false_eq_true, if_false] at h
        split at h
        · next ls hrl =>
          cases h
          simp only [List.filter_cons, hemp, Bool.not_false, if_true]
          exact Forall2.cons ⟨i, hl, hrl⟩ (ih bs' hr)
        · cases h
    · cases h

/-- the diagram text is defined whenever every reachable task's type has a table entry -/
theorem render_defined (tbl : TypeTable) (dir : String) (tasks : List Task)
    (h : ∀ t ∈ subQueue tasks, (lookupType tbl t.ty).isSome) :
    (buildTaskDiagram tbl dir tasks).isSome := by
  have hty : ∀ T ∈ types (build tasks), (lookupType tbl T).isSome := by
    intro T hT
    obtain ⟨t, ht, rfl⟩ := (build_types tasks T).mp hT
    exact h t ht
  have hcb := classBlocks_defined tbl (build tasks) hty
  have hrb := relBlocks_defined tbl (build tasks) hty (by
    intro e he k hk
    obtain ⟨T, r⟩ := e
    obtain ⟨_, hr⟩ := (build_entry tasks T r).mp he
    obtain ⟨p, D⟩ := k
    simp only at hk
    rw [hr] at hk
    obtain ⟨t, ht, _, v, hv, d, hd, hD⟩ := (build_rels tasks T p D).mp hk
    rw [← hD]
    exact h d (subQueue_closed tasks t d p v ht hv hd))
  simp only [buildTaskDiagram, renderStruct]
  cases h1 : classBlocks tbl (build tasks) with
  | none => simp [h1] at hcb
  | some cbs =>
    cases h2 : relBlocks tbl (build tasks) with
    | none => simp [h2] at hrb
    | some rbs => simp

/-! The examples: a three-type graph with a nested collection, a shared dependency type and a parameter
that is a single task in one holder and a collection in another. -/

def leaf (x : Nat) : Task := .mk x []
/-- `T0(a = T1(), b = (T1(), {"k": (T2(),)}))`, `T0(a = (T1(),), b = scalar)` -/
def demo : List Task :=
  [.mk 0 [("a", .task (leaf 1)), ("b", .tuple [.task (leaf 1), .dict [("k", .tuple [.task (leaf 2)])]])],
   .mk 0 [("a", .tuple [.task (leaf 1)]), ("b", .scalar)]]

example : types (build demo) = [0, 1, 2] := by decide +kernel
example : getRels (build demo) 0 = [(("a", 1), true), (("b", 1), true), (("b", 2), true)] := by decide +kernel
example : getRels (build (demo.take 1)) 0 = [(("a", 1), false), (("b", 1), true), (("b", 2), true)] := by decide +kernel
example : (subQueue demo).length = 6 ∧ sizeQueue demo = 6 := by decide +kernel
/-- `many_iff` read right-to-left on the demo: the flag computed by `build` yields a reachable holder -/
example : ∃ t ∈ subQueue demo, t.ty = 0 ∧ ∃ v, Holds t "a" v 1 ∧ v.isTask = false :=
  (many_iff demo 0 "a" 1).mp (by decide +kernel)

def demoTable : TypeTable :=
  [(0, { name := "A", fields := [("Any", "a"), ("tuple", "b")], ret := some "int" }),
   (1, { name := "B", fields := [], ret := none }),
   (2, { name := "C", fields := [], ret := none })]

example : buildTaskDiagram demoTable "BT" demo = some
    ("classDiagram\n    direction BT\n\n    class A\n    A : Any a\n    A : tuple b\n    A : run() int\n\n"
     ++ "    class B\n    B : run()\n\n    class C\n    C : run()\n\n\n"
     ++ "    A <-- \"many\" B: a\n    A <-- \"many\" B: b\n    A <-- \"many\" C: b") := by decide +kernel

end Lt.Props.C20
