import LabtechModel.Proofs.Submit
import LabtechModel.Proofs.Plan
import LabtechModel.Proofs.InvMain
import LabtechModel.Proofs.Inv2Count
/-!
# C05 — Runnable work is started whenever capacity is free

Proved here: the submit phase starts *every* task `get_ready_tasks` lists, in that order, before the
coordinator waits (`submit_phase_starts_all_ready`); `get_ready_tasks` skips a dependency-free task
only when its type is at its limit (`not_ready_means_blocked`); the executor never leaves a worker
slot idle while a future is queued, after `submit` and after every `wait`
(`no_idle_worker_after_submit`, `no_idle_worker_after_wait`); the serial runner executes a task in
every `wait` in which something is submitted (`serial_wait_executes_head`).

Whole runs (every problem, configuration, cache pre-state, fuel and schedule; no hypothesis; from
the master invariant of `Proofs/InvLoop.lean`):
* `submit_phase_exhausts_ready`: at every reachable loop head, after the submit phase
  `get_ready_tasks` returns nothing: every still pending task has an unfinished dependency or its
  type is at its `max_parallel` limit (`resting_point_blocked`), i.e. the coordinator only waits when
  nothing more can be started;
* `no_idle_worker_at_rest`: for process runners, at every resting point (after the submit phase of
  every reachable loop head) no worker slot is idle while a future is queued.
* `executing_equals_min_at_rest`: the counting equation. At every resting point of a running
  coordinator, process backends: `#running = min max_workers #active` and `#queued = #active - #running`;
  serial backend: no worker, the deque holds exactly the active tasks and the `wait` that follows
  starts exactly `min 1 #active` tasks (`serial_wait_executes_one_iff`: one iff something is active);
* `active_is_maximal`: at every resting point the active set is admissible (all dependencies
  finished, no type above its `max_parallel`) and maximal: adding any single pending task breaks
  admissibility. So "executing = min(max_workers, runnable tasks the per-type limits allow)" holds
  with "runnable the limits allow" = the maximal admissible set `get_ready_tasks` builds greedily in
  `pending_tasks` order (`Admissible_spec` spells the predicate out).
-/
namespace Lt.Props.C05
open Lt

theorem submit_phase_starts_all_ready (cfg : Config) (p : Problem) (rs : RS) (h : rs.ts.pending.Nodup) :
    (submitAll cfg p (readyTasks p rs.ts) rs).ts.active = rs.ts.active ++ readyTasks p rs.ts ∧
    (submitAll cfg p (readyTasks p rs.ts) rs).ts.pending = rs.ts.pending.filter (· ∉ readyTasks p rs.ts) ∧
    (submitAll cfg p (readyTasks p rs.ts) rs).status = rs.status := by
  have hnd : (readyTasks p rs.ts).Nodup := (readyAux_sublist p rs.ts rs.ts.pending _).nodup h
  have := submitAll_all cfg p (readyTasks p rs.ts) rs hnd (fun t ht => (readyTasks_no_pending_deps p rs.ts t ht).2)
  rw [this.1]
  exact ⟨rfl, rfl, this.2⟩

/-- a pending task that `get_ready_tasks` does not return is blocked by a pending dependency or by
    its type's `max_parallel` (counting the active tasks and the ones picked before it) -/
theorem not_ready_means_blocked (p : Problem) (s : TS) :
    ∀ (l : List Tid) (c : Nat → Nat) (t : Tid), t ∈ l → t ∉ readyAux p s l c →
      s.pendDeps t ≠ [] ∨ ∃ L, p.maxPar (p.ty t) = some L ∧
        L ≤ c (p.ty t) + typeCount p (readyAux p s l c) (p.ty t) :=
  readyAux_blocked p s

/-- executor: after a submit no worker slot is idle while a future is queued -/
theorem no_idle_worker_after_submit (cfg : Config) (p : Problem) (rs : RS) (t : Tid)
    (hb : cfg.backend ≠ .serial) (h : rs.running.length ≤ cfg.maxWorkers) :
    (submitTask cfg p rs t).queued = [] ∨ (submitTask cfg p rs t).running.length = cfg.maxWorkers := by
  simp only [submitTask, hb, if_false]
  exact startProcesses_no_idle cfg _ (by simpa using h)

/-- executor: after a wait (results consumed, dead processes dropped, `_start_processes` called) no
    worker slot is idle while a future is queued -/
theorem no_idle_worker_after_wait (cfg : Config) (p : Problem) (req : List Tid) (c : Choice) (rs : RS)
    (h : rs.running.length ≤ cfg.maxWorkers) :
    (waitProcess cfg p req c rs).queued = [] ∨ (waitProcess cfg p req c rs).running.length = cfg.maxWorkers := by
  rw [waitProcess_procPre, processYields_queued, processYields_running]
  exact startProcesses_no_idle cfg _ (procPre_workers cfg p c rs h)

/-- reading of `startedOf`: the tids of the `start` events, in order -/
theorem startedOf_spec (tr : List Ev) (t : Tid) : t ∈ startedOf tr ↔ Ev.start t ∈ tr := by
  simp only [startedOf, List.mem_filterMap]
  constructor
  · rintro ⟨e, he, h⟩
    cases e <;> simp [evStartTid] at h
    subst h; exact he
  · intro h; exact ⟨_, h, rfl⟩

/-- the serial runner executes the head of the deque in every wait with a non-empty deque -/
theorem serial_wait_executes_head (cfg : Config) (p : Problem) (req : List Tid) (rs : RS) (j : Job) (rest : List Job)
    (h : rs.queued = j :: rest) :
    Ev.start j.tid ∈ (waitSerial cfg p req rs).trace := by
  rw [← startedOf_spec, waitSerial_started, h]
  simp

def exP : Problem where
  tidOf := fun i => i
  children := fun _ => []
  requested := [0, 1, 2]
  ty := fun _ => 0
  maxPar := fun _ => some 2
  cacheable := fun _ => false
  fails := fun _ => false
  dies := fun _ => false
  behave := fun t _ => some t
def exCfg : Config := { backend := .fork, maxWorkers := 4, contOnFail := true, bust := false }

example : readyTasks exP (plan exCfg exP [] 4) = [0, 1] ∧ 2 ∉ readyTasks exP (plan exCfg exP [] 4) := by decide +kernel

/-- at every reachable loop head the submit phase leaves nothing that `get_ready_tasks` would offer -/
theorem submit_phase_exhausts_ready (cfg : Config) (p : Problem) (store : Store) (fuel : Nat) (sched : List Choice) :
    let rs := runLoop cfg p (reqTids p) sched (initRS cfg p store fuel)
    readyTasks p (submitAll cfg p (readyTasks p rs.ts) rs).ts = [] :=
  loopHead_exhausts cfg p store fuel sched

/-- at every resting point each pending task is blocked: by an unfinished direct dependency (a
    planned dependency that has not been yielded) or by its type's `max_parallel` -/
theorem resting_point_blocked (cfg : Config) (p : Problem) (store : Store) (fuel : Nat) (sched : List Choice) :
    let rs := runLoop cfg p (reqTids p) sched (initRS cfg p store fuel)
    let rs' := submitAll cfg p (readyTasks p rs.ts) rs
    rs.status = .running → ∀ t ∈ rs'.ts.pending,
      (∃ d ∈ (plan cfg p store fuel).ddeps t, d ∉ yielded rs') ∨
      ∃ L, p.maxPar (p.ty t) = some L ∧ L ≤ typeCount p rs'.ts.active (p.ty t) := by
  intro rs rs' hrun t ht
  have hex : readyAux p rs'.ts rs'.ts.pending (typeCount p rs'.ts.active) = [] :=
    loopHead_exhausts cfg p store fuel sched
  obtain ⟨hc, _, _⟩ := submitPhase_reach (plan_PI cfg p store fuel) (reach_all cfg p store fuel sched) hrun
  rcases not_ready_means_blocked p rs'.ts _ _ t ht (by rw [hex]; exact List.not_mem_nil) with h | ⟨L, hL, hle⟩
  · obtain ⟨d, hd⟩ := List.exists_mem_of_ne_nil _ h
    exact Or.inl ⟨d, (hc.ts.mem_pd t d).mp hd⟩
  · rw [hex] at hle
    exact Or.inr ⟨L, hL, by simpa [typeCount] using hle⟩

/-- process runners: at every resting point no worker slot is idle while a future is queued -/
theorem no_idle_worker_at_rest (cfg : Config) (p : Problem) (store : Store) (fuel : Nat) (sched : List Choice)
    (hb : cfg.backend ≠ .serial) :
    let rs := runLoop cfg p (reqTids p) sched (initRS cfg p store fuel)
    let rs' := submitAll cfg p (readyTasks p rs.ts) rs
    rs'.queued = [] ∨ rs'.running.length = cfg.maxWorkers := by
  have hl := loopHead_live cfg p store fuel sched
  exact submitAll_noIdle cfg p hb _ _ hl.workers (hl.noIdle hb)

/-- non-vacuity: diamond with `max_parallel = 1` for the even tids, two workers: at the second loop
    head tasks 1 and 2 become ready together and both are started; nothing is left ready -/
example :
    let rs := runLoop invExCfg invExP (reqTids invExP) [chooseAll] (initRS invExCfg invExP [] 4)
    rs.status = .running ∧ readyTasks invExP rs.ts = [1, 2] ∧
    (submitAll invExCfg invExP (readyTasks invExP rs.ts) rs).ts.pending = [3] ∧
    (submitAll invExCfg invExP (readyTasks invExP rs.ts) rs).running.map Job.tid = [1, 2] := by decide +kernel

/-- at every resting point of a running coordinator: executing = min(max_workers, active) for
    process backends (the other active tasks are queued in the executor); for the serial backend
    nothing executes outside `wait`, and the `wait` that follows executes `min 1 #active` tasks -/
theorem executing_equals_min_at_rest (cfg : Config) (p : Problem) (store : Store) (fuel : Nat) (sched : List Choice) :
    let rs := runLoop cfg p (reqTids p) sched (initRS cfg p store fuel)
    let rs' := submitAll cfg p (readyTasks p rs.ts) rs
    rs.status = .running →
    (cfg.backend ≠ .serial →
      rs'.running.length = min cfg.maxWorkers rs'.ts.active.length ∧
      rs'.queued.length = rs'.ts.active.length - rs'.running.length) ∧
    (cfg.backend = .serial →
      rs'.running = [] ∧ rs'.queued.length = rs'.ts.active.length ∧
      (startedOf (waitSerial cfg p (reqTids p) rs').trace).length
        = (startedOf rs'.trace).length + min 1 rs'.ts.active.length) := by
  intro rs rs' hrun
  refine ⟨fun hb => rest_count_process cfg p store fuel sched hb hrun, fun hb => ?_⟩
  obtain ⟨h1, h2⟩ := rest_count_serial cfg p store fuel sched hb hrun
  refine ⟨h1, h2, ?_⟩
  rw [waitSerial_started, List.length_append, List.length_map, List.length_take]
  show _ = _ + min 1 (restState cfg p store fuel sched).ts.active.length
  rw [← h2]

/-- serial backend: the `wait` at a resting point starts exactly one task iff something is active,
    and nothing otherwise -/
theorem serial_wait_executes_one_iff (cfg : Config) (p : Problem) (store : Store) (fuel : Nat) (sched : List Choice)
    (hb : cfg.backend = .serial) :
    let rs := runLoop cfg p (reqTids p) sched (initRS cfg p store fuel)
    let rs' := submitAll cfg p (readyTasks p rs.ts) rs
    rs.status = .running →
    ((∃ t, startedOf (waitSerial cfg p (reqTids p) rs').trace = startedOf rs'.trace ++ [t]) ↔
      rs'.ts.active ≠ []) ∧
    (rs'.ts.active = [] → startedOf (waitSerial cfg p (reqTids p) rs').trace = startedOf rs'.trace) := by
  intro rs rs' hrun
  obtain ⟨_, h2⟩ := rest_count_serial cfg p store fuel sched hb hrun
  have h2' : rs'.queued.length = rs'.ts.active.length := h2
  rw [waitSerial_started]
  cases hq : rs'.queued with
  | nil =>
    have ha : rs'.ts.active = [] := by
      rw [hq] at h2'
      exact List.eq_nil_of_length_eq_zero h2'.symm
    refine ⟨⟨?_, fun h => absurd ha h⟩, fun _ => by simp⟩
    rintro ⟨t, ht⟩
    have := congrArg List.length ht
    simp at this
  | cons j rest =>
    have ha : rs'.ts.active ≠ [] := by
      intro h0
      rw [hq, h0] at h2'
      simp at h2'
    exact ⟨⟨fun _ => ha, fun _ => ⟨j.tid, by simp⟩⟩, fun h0 => absurd h0 ha⟩

/-- reading of `Admissible`: the tasks may be in flight together — every direct dependency of each
    of them has been delivered, and no type has more members than its `max_parallel` -/
theorem Admissible_spec (p : Problem) (P : TS) (Y A : List Tid) :
    Admissible p P Y A ↔
      ((∀ t ∈ A, ∀ d ∈ P.ddeps t, d ∈ Y) ∧
       ∀ T L, p.maxPar T = some L → (A.filter (fun t => p.ty t = T)).length ≤ L) := Iff.rfl

/-- at every resting point the active set is a maximal admissible set: it is admissible, and adding
    any single pending task makes it inadmissible (unfinished dependency, or type limit exceeded) -/
theorem active_is_maximal (cfg : Config) (p : Problem) (store : Store) (fuel : Nat) (sched : List Choice) :
    let rs := runLoop cfg p (reqTids p) sched (initRS cfg p store fuel)
    let rs' := submitAll cfg p (readyTasks p rs.ts) rs
    rs.status = .running →
    Admissible p (plan cfg p store fuel) (yielded rs') rs'.ts.active ∧
    ∀ t ∈ rs'.ts.pending, ¬ Admissible p (plan cfg p store fuel) (yielded rs') (rs'.ts.active ++ [t]) := by
  intro rs rs' hrun
  obtain ⟨hc, _, _⟩ := submitPhase_reach (plan_PI cfg p store fuel) (reach_all cfg p store fuel sched) hrun
  refine ⟨⟨hc.ts.actDeps, submitAll_limit cfg p _ (loopHead_limit cfg p store fuel sched)⟩, ?_⟩
  intro t ht hadm
  rcases resting_point_blocked cfg p store fuel sched hrun t ht with ⟨d, hd, hdy⟩ | ⟨L, hL, hle⟩
  · exact hdy (hadm.1 t (by simp) d hd)
  · have h0 := hadm.2 _ L hL
    rw [typeCount_append] at h0
    have h1 : typeCount p [t] (p.ty t) = 1 := by simp [typeCount]
    have hle' : L ≤ typeCount p rs'.ts.active (p.ty t) := hle
    omega

/-- non-vacuity: three independent tasks of one type with `max_parallel = 2`, one worker: at the first
    resting point two tasks are active (the limit), one executes (`min 1 2`), one is queued; with
    the serial runner the wait starts exactly one task; the third task cannot be added -/
example :
    let cfg1 : Config := { exCfg with maxWorkers := 1 }
    let rs' := submitAll cfg1 exP (readyTasks exP (initRS cfg1 exP [] 4).ts) (initRS cfg1 exP [] 4)
    rs'.ts.active = [0, 1] ∧ rs'.running.map Job.tid = [0] ∧ rs'.queued.map Job.tid = [1] ∧
    rs'.running.length = min cfg1.maxWorkers rs'.ts.active.length ∧ rs'.ts.pending = [2] ∧
    typeCount exP (rs'.ts.active ++ [2]) 0 = 3 := by decide +kernel

example :
    let cfgS : Config := { exCfg with backend := .serial }
    let rs' := submitAll cfgS exP (readyTasks exP (initRS cfgS exP [] 4).ts) (initRS cfgS exP [] 4)
    rs'.queued.map Job.tid = [0, 1] ∧ startedOf rs'.trace = [] ∧
    startedOf (waitSerial cfgS exP (reqTids exP) rs').trace = [0] := by decide +kernel

end Lt.Props.C05
