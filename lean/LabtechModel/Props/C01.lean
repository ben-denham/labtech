import LabtechModel.Props.C10
import LabtechModel.Proofs.InvRef
import LabtechModel.Proofs.OSet
/-!
# C01 — run_tasks returns exactly each requested task's own computed result

Proved here:
* `returned_keys_in_request_order`: the keys of the returned dict are a sub-sequence of the
  de-duplicated request list, in request order, each at most once;
* `returned_value_is_captured`: the value returned for a task is the one captured for that very task
  when it was yielded;
* `captured_is_own_outcome`: what is captured for `t` is the value of `t`'s own successful outcome;
* `outcome_is_behave_of_reads` / `outcome_is_stored_value`: a worker's outcome is `run()` applied to
  the reads of its own dependency objects, or the stored entry under its own key when loaded —
  no backend, limit or schedule appears in it;
* `reference_example`: on a concrete diamond DAG every backend and two different schedules return
  the value of the plain sequential evaluation.
Whole runs (from the master invariant and the failure-aware value invariant of `Proofs/Inv2Ref.lean`, read as
`RefInv` of `Proofs/InvRef.lean` when nothing fails: `loopHead_ref`, `run_returns_ref` in `Proofs/Inv2Main.lean`):
* `returns_reference_values`: for every problem in which no task raises or dies and `run()` is total
  (`RefHyp`: `Acyclic`, `InstOK`, a choice `obj` of one object per tid, `NoFail`, `BehaveTotal`), every
  configuration with positive limits, every *sound* cache pre-state (`StoreSound`: entries hold the
  reference value of their task), enough planning fuel and every fair schedule that is long enough,
  `run_tasks` returns exactly the requested tasks, de-duplicated in request order, each with
  `refEval` — the value of the plain sequential dependency-first evaluation. Backend, worker count,
  per-type limits, the schedule and the cache pre-state do not occur in the right-hand side;
* `reference_is_failure_aware_reference`: under `NoFail`, `BehaveTotal` and a sound pre-state `refEvalF = refEval`;
  this is how `run_returns_ref` is obtained from the failure-aware `run_returns_refF` (C10's
  `reference_when_nothing_fails`), which shows that the generalisation to failing tasks and arbitrary cache
  pre-states is faithful (`returns_reference_values_from_C10` restates `returns_reference_values`);
* `every_yield_is_reference_value`: on the way, every task that is yielded at all is yielded with
  `ok (refEval t)` (also non-requested intermediate tasks, also loaded-from-cache ones).
-/
namespace Lt.Props.C01
open Lt

theorem dedup_sublist : ∀ (l : List Nat), (dedup l).Sublist l := by
  intro l
  induction l with
  | nil => simp [dedup]
  | cons a b ih =>
    simp only [dedup]
    exact (List.Sublist.trans (List.filter_sublist) ih).cons_cons a

theorem returned_keys_in_request_order (req : List Tid) (rs : RS) (r : List (Tid × Val))
    (h : (finish req rs).status = .returned r) (hr : rs.status = .running) :
    (r.map (·.1)).Sublist (dedup req) ∧ (r.map (·.1)).Nodup := by
  rw [Lt.Props.C10.finish_returned req rs r h hr]
  have key : ∀ (l : List Tid), ((l.filterMap (fun t => (lookup t rs.taskResults).map (fun v => (t, v)))).map (·.1)).Sublist l := by
    intro l
    induction l with
    | nil => simp
    | cons a b ih =>
      simp only [List.filterMap_cons]
      cases lookup a rs.taskResults with
      | none => simpa using ih.cons a
      | some v => simpa using ih.cons_cons a
  exact ⟨key _, (key _).nodup (dedup_nodup req)⟩

theorem returned_value_is_captured (req : List Tid) (rs : RS) (r : List (Tid × Val))
    (h : (finish req rs).status = .returned r) (hr : rs.status = .running) :
    ∀ kv ∈ r, lookup kv.1 rs.taskResults = some kv.2 :=
  fun kv hkv => (Lt.Props.C10.returned_only_captured req rs r h hr kv hkv).2

theorem captured_is_own_outcome (cfg : Config) (req : List Tid) (rs : RS) (t : Tid) (o : Outcome) (x : Tid) (w : Val)
    (h : lookup x (processYield cfg req rs t o).taskResults = some w) :
    lookup x rs.taskResults = some w ∨ (x = t ∧ o = .ok w) := by
  cases o with
  | ok v =>
    rw [processYield_taskResults] at h
    dsimp only at h
    split at h
    · by_cases hx : x = t
      · subst hx
        rw [lookup_cons_filter_self] at h
        exact Or.inr ⟨rfl, by rw [Option.some.inj h]⟩
      · rw [lookup_cons_filter_ne t x v hx] at h
        exact Or.inl h
    · exact Or.inl h
  | exc | died =>
    rw [processYield_taskResults] at h
    exact Or.inl h

theorem outcome_is_behave_of_reads (p : Problem) (ts : TS) (store : Store) (j : Job)
    (hu : j.useCache = false) (hf : p.fails j.tid = false) :
    (∀ v, p.behave j.tid (reads p (repr0 ts j.tid) (j.snap.getD [])) = some v → runOutcome p ts store j = .ok v) ∧
    (p.behave j.tid (reads p (repr0 ts j.tid) (j.snap.getD [])) = none → runOutcome p ts store j = .exc) := by
  constructor
  · intro v hv; simp [runOutcome, hu, hf, hv]
  · intro hv; simp [runOutcome, hu, hf, hv]

theorem outcome_is_stored_value (p : Problem) (ts : TS) (store : Store) (j : Job) (v : Val)
    (hu : j.useCache = true) (hs : lookup j.tid store = some v) :
    runOutcome p ts store j = .ok v := by
  simp [runOutcome, hu, hs]

/-- diamond: 3 depends on 1 and 2, both depend on 0 -/
def exP : Problem where
  tidOf := fun i => i
  children := fun i => if i = 3 then [1, 2] else if i = 1 ∨ i = 2 then [0] else []
  requested := [3, 1]
  ty := fun t => t % 2
  maxPar := fun T => if T = 0 then some 1 else none
  cacheable := fun _ => true
  fails := fun _ => false
  dies := fun _ => false
  behave := fun t vs => some (1000 * t + (vs.map (fun o => o.getD 7)).foldl (· + ·) 0)

def all : Choice := ⟨fun _ => true⟩
def lastOnly : Choice := ⟨fun i => i == 1⟩
def firstOnly : Choice := ⟨fun i => i == 0⟩

theorem reference_example :
    ∀ be ∈ [Backend.serial, Backend.fork, Backend.spawn], ∀ mw ∈ [1, 2, 3],
      ∀ sched ∈ [[all, all, all, all, all], [lastOnly, firstOnly, lastOnly, all, firstOnly, all, all, all]],
        (run { backend := be, maxWorkers := mw, contOnFail := true, bust := false } exP [] 5 sched).status
          = .returned [(3, 6000), (1, 1000)] := by decide +kernel

/-- schedule-, backend-, limit- and cache-independence: the returned dict is the reference evaluation
    of the requested tasks -/
theorem returns_reference_values (cfg : Config) (p : Problem) (store : Store) (fuel : Nat) (sched : List Choice)
    (obj : Tid → Iid) (H : RefHyp p obj) (hS : StoreSound p obj store) (hF : FuelOK p fuel)
    (hL : LimitsPos cfg p) (hfair : Fair sched)
    (hlen : (plan cfg p store fuel).pending.length + 1 ≤ sched.length) :
    (run cfg p store fuel sched).status =
      .returned ((dedup (reqTids p)).filterMap (fun t => (refEval p obj t).map (fun v => (t, v)))) ∧
    ∀ t ∈ reqTids p, (refEval p obj t).isSome :=
  run_returns_ref cfg p store fuel sched obj H hS hF hL hfair hlen

/-- every outcome handed to the coordinator, at any point of any run, is the task's reference value -/
theorem every_yield_is_reference_value (cfg : Config) (p : Problem) (store : Store) (fuel : Nat)
    (sched : List Choice) (obj : Tid → Iid) (H : RefHyp p obj) (hS : StoreSound p obj store)
    (t : Tid) (o : Outcome) (h : Ev.yield t o ∈ (run cfg p store fuel sched).trace) :
    ∃ v, o = .ok v ∧ refEval p obj t = some v := by
  rw [run_trace] at h
  exact (loopHead_ref cfg p store fuel sched obj H hS).yOk t o h

/-- what `refEval` is: `run()` of the task applied to the reference values of the task objects in
    its parameters -/
theorem refEval_spec (p : Problem) (obj : Tid → Iid) (H : RefHyp p obj) (i : Iid) :
    refEval p obj (p.tidOf i) =
      p.behave (p.tidOf i) (((p.children (obj (p.tidOf i))).map p.tidOf).map (refEval p obj)) :=
  refEval_unfold p obj H.acyc H.objOK i

/-! non-vacuity: the hypotheses hold for the diamond with a duplicated object, for every backend,
    with a cold and with a warm (sound) cache, and the conclusion is the concrete dict -/
theorem invExP_refHyp : RefHyp invExP id where
  acyc := invExP_acyclic
  -- `C10.failP` is `invExP` with other `fails` / `dies`, which these two do not mention
  inst := Lt.Props.C10.failP_refHypF.inst
  objOK := Lt.Props.C10.failP_refHypF.objOK
  noFail := fun _ => ⟨rfl, rfl⟩
  total := by intro t vs _; simp [invExP]

theorem invExP_warm_sound : StoreSound invExP id [(1, 1000)] := by
  intro t v h
  simp only [lookup] at h
  split at h
  · next h1 => subst h1; simp only [Option.some.injEq] at h; subst h; decide
  · cases h

example : ∀ be ∈ [Backend.serial, Backend.fork, Backend.spawn], ∀ st ∈ [[], [(1, 1000)]],
    (run { invExCfg with backend := be } invExP st 4 (List.replicate 5 chooseFirst)).status
      = .returned [(3, 6000), (1, 1000)] ∧
    (dedup (reqTids invExP)).filterMap (fun t => (refEval invExP id t).map (fun v => (t, v)))
      = [(3, 6000), (1, 1000)] := by decide +kernel

example (be : Backend) :
    (run { invExCfg with backend := be } invExP [(1, 1000)] 4 (List.replicate 5 chooseFirst)).status =
      .returned ((dedup (reqTids invExP)).filterMap (fun t => (refEval invExP id t).map (fun v => (t, v)))) :=
  (returns_reference_values _ invExP [(1, 1000)] 4 _ id invExP_refHyp invExP_warm_sound invExP_fuel
    (invEx_limits be 2 (by decide)) (fair_replicate 5 chooseFirst rfl) (by cases be <;> decide +kernel)).1

/-- when nothing fails, `run()` is total and the cache pre-state is sound, the failure-aware
    reference evaluation of C10 is the plain one, for every task that has an object -/
theorem reference_is_failure_aware_reference (cfg : Config) (p : Problem) (store : Store) (obj : Tid → Iid)
    (H : RefHyp p obj) (hS : StoreSound p obj store) (i : Iid) :
    refEvalF cfg p store obj (p.tidOf i) = refEval p obj (p.tidOf i) ∧ (refEval p obj (p.tidOf i)).isSome :=
  ⟨refEvalF_eq_refEval cfg p store obj H hS _ i (Nat.lt_succ_self _),
   refEval_isSome p obj H _ i (Nat.lt_succ_self _)⟩

theorem returns_reference_values_from_C10 (cfg : Config) (p : Problem) (store : Store) (fuel : Nat) (sched : List Choice)
    (obj : Tid → Iid) (H : RefHyp p obj) (hS : StoreSound p obj store) (hF : FuelOK p fuel)
    (hL : LimitsPos cfg p) (hfair : Fair sched)
    (hlen : (plan cfg p store fuel).pending.length + 1 ≤ sched.length) :
    (run cfg p store fuel sched).status =
      .returned ((dedup (reqTids p)).filterMap (fun t => (refEval p obj t).map (fun v => (t, v)))) ∧
    ∀ t ∈ reqTids p, (refEval p obj t).isSome :=
  returns_reference_values cfg p store fuel sched obj H hS hF hL hfair hlen

end Lt.Props.C01

/-! ## `labtech.utils.OrderedSet`, the container behind "in request order, each at most once"

The run model (`Model/Run.lean`) writes `dedup` wherever the code builds an `OrderedSet` (`TaskState.pending_tasks`,
`get_direct_dependencies`, the sets `complete_task` returns). `Model/OSet.lean` models the class itself - a dict from
key object to stored object, elements with an equality class `cls` and an object identity `ident` - and the theorems
below say what it computes: (a) never two keys of one class, (b) `OrderedSet(items)` keeps the FIRST object of every
class in first-occurrence order, which on classes is exactly `dedup`, (c) membership = added and not removed since,
(d) `a + b` = `OrderedSet(list(a) + list(b))`, `len` = number of distinct classes, (e) `remove` raises exactly when the
class is absent, and a removed class that is added again goes to the end. The `OSET` driver word runs this model
against the real class on generated operation sequences (harness/osetrun.py). -/
namespace Lt.Props.C01
open Lt Lt.OSet

/-- (a) whatever sequence of constructor calls, `add`, successful `remove` and `+` produced a set, its key objects
    have pairwise different equality classes -/
theorem oset_keys_distinct (s : OSet) (h : Built s) : (s.toList.map Elem.cls).Nodup := built_wf h

/-- (a) the same for a sequence of `add` / `remove` calls (a `remove` that raises leaves the set unchanged) -/
theorem oset_keys_distinct_after_ops (s : OSet) (ops : List Op) (h : (s.toList.map Elem.cls).Nodup) :
    ((runOps s ops).toList.map Elem.cls).Nodup := wf_runOps ops s h

/-- (b) iterating `OrderedSet(items)` yields the first occurrence of every class, in order -/
theorem oset_ofList_first_occurrences (l : List Elem) : (ofList l).toList = firstOcc l := by
  rw [toList_ofList, foldl_kins_nil]

/-- (b) on equality classes that is the `dedup` of the run model -/
theorem oset_ofList_is_dedup (l : List Elem) : (ofList l).toList.map Elem.cls = dedup (l.map Elem.cls) := by
  rw [oset_ofList_first_occurrences, firstOcc_cls]

/-- (b) the object that comes out for a class is the FIRST object of that class in `items` -/
theorem oset_ofList_first_identity (l : List Elem) (c : Nat) :
    (ofList l).toList.find? (fun y => y.cls == c) = l.find? (fun y => y.cls == c) := by
  rw [oset_ofList_first_occurrences, firstOcc_find]

/-- (c) after a sequence of `add` / `remove` calls an object is `in` the set iff some `add` of its class is followed by
    no `remove` of its class, or it was in the set before and its class was never removed -/
theorem oset_mem_after_ops (s : OSet) (ops : List Op) (x : Elem) :
    (runOps s ops).mem x = true ↔
      (∃ pre e post, ops = pre ++ Op.add e :: post ∧ e.cls = x.cls ∧ NoRem x.cls post) ∨
      (s.mem x = true ∧ NoRem x.cls ops) := by
  rw [mem_runOps, live_iff]

/-- (c) membership is by class: in `OrderedSet(items)` iff an object of the class is in `items`; in `a + b` iff in
    `a` or in `b`; and `in` agrees with what iteration yields -/
theorem oset_mem_by_class (l : List Elem) (a b s : OSet) (x : Elem) :
    ((ofList l).mem x = true ↔ x.cls ∈ l.map Elem.cls) ∧
    ((a + b).mem x = (a.mem x || b.mem x)) ∧
    (s.mem x = true ↔ x.cls ∈ s.toList.map Elem.cls) :=
  ⟨by rw [mem_ofList, hasCls_iff], mem_plus a b x, by rw [mem, hasCls_iff]⟩

/-- (d) `a + b` iterates like `OrderedSet(list(a) + list(b))` -/
theorem oset_plus_is_ofList_concat (a b : OSet) : (a + b).toList = (ofList (a.toList ++ b.toList)).toList := by
  rw [toList_plus, toList_ofList]

/-- (d) for sets built through the interface: all of `a`'s key objects, then `b`'s key objects whose class is new -
    `a`'s object wins the identity of a shared class -/
theorem oset_plus_self_keys_first (a b : OSet) (ha : Built a) (hb : Built b) :
    (a + b).toList = a.toList ++ b.toList.filter (fun y => !a.mem y) :=
  toList_plus_wf a b (built_wf ha) (built_wf hb)

/-- (d) `len` = number of distinct classes -/
theorem oset_len_distinct_classes (l : List Elem) (a b : OSet) :
    (ofList l).len = (dedup (l.map Elem.cls)).length ∧
    (a + b).len = (dedup ((a.toList ++ b.toList).map Elem.cls)).length := by
  constructor
  · rw [len_eq, ← oset_ofList_is_dedup, List.length_map]
  · rw [len_eq, oset_plus_is_ofList_concat, ← oset_ofList_is_dedup, List.length_map]

/-- (e) `remove` raises `KeyError` exactly when no object of the class is in the set; otherwise the class is gone and the
    other keys keep their order -/
theorem oset_remove_fails_iff_absent (s : OSet) (e : Elem) :
    (s.remove e = none ↔ s.mem e = false) ∧
    (∀ s', s.remove e = some s' → s'.mem e = false ∧ s'.toList = s.toList.filter (fun y => y.cls ≠ e.cls)) := by
  refine ⟨remove_none_iff s e, fun s' hr => ⟨?_, toList_remove s s' e hr⟩⟩
  rw [mem_remove s s' e e hr]; simp

/-- (e) `add` of a present class changes nothing that iteration shows (the OLD object stays, at its position); `add` of
    an absent class appends; `remove` then `add` moves the class to the end, now with the new object -/
theorem oset_add_keeps_first_and_readd_moves_to_end (s : OSet) (e : Elem) :
    (s.mem e = true → (s.add e).toList = s.toList) ∧
    (s.mem e = false → (s.add e).toList = s.toList ++ [e]) ∧
    (∀ s', s.remove e = some s' → (s'.add e).toList = s.toList.filter (fun y => y.cls ≠ e.cls) ++ [e]) :=
  ⟨toList_add_present s e, toList_add_absent s e, fun s' hr => toList_remove_add s s' e hr⟩

/-! non-vacuity: `1`, `True`, `1.0` are class 1 with identities 10, 11, 12; two equal task objects are class 2 -/
example : (ofList [⟨1, 10⟩, ⟨2, 20⟩, ⟨1, 11⟩, ⟨2, 21⟩, ⟨3, 30⟩]).toList = [⟨1, 10⟩, ⟨2, 20⟩, ⟨3, 30⟩] := by decide +kernel

example : ((ofList [⟨1, 10⟩, ⟨2, 20⟩]).add ⟨1, 11⟩).toList = [⟨1, 10⟩, ⟨2, 20⟩] ∧
    ((ofList [⟨1, 10⟩, ⟨2, 20⟩]).add ⟨1, 11⟩).stored = [⟨1, 11⟩, ⟨2, 20⟩] := by decide +kernel

example : ((ofList [⟨1, 10⟩, ⟨2, 20⟩]).remove ⟨1, 12⟩).map (fun s => (s.add ⟨1, 11⟩).toList) = some [⟨2, 20⟩, ⟨1, 11⟩] ∧
    (ofList [⟨1, 10⟩, ⟨2, 20⟩]).remove ⟨3, 12⟩ = none := by decide +kernel

example : (ofList [⟨1, 10⟩, ⟨2, 20⟩] + ofList [⟨3, 30⟩, ⟨2, 21⟩, ⟨1, 11⟩, ⟨4, 40⟩]).toList
    = [⟨1, 10⟩, ⟨2, 20⟩, ⟨3, 30⟩, ⟨4, 40⟩] ∧
    (ofList [⟨1, 10⟩, ⟨2, 20⟩] + ofList [⟨3, 30⟩, ⟨2, 21⟩]).len = 3 := by decide +kernel

example : (runOps empty [.add ⟨1, 10⟩, .rem ⟨1, 11⟩, .rem ⟨1, 10⟩, .add ⟨2, 20⟩, .add ⟨1, 12⟩, .rem ⟨2, 21⟩]).toList = [⟨1, 12⟩] ∧
    (runOps empty [.add ⟨1, 10⟩, .rem ⟨1, 11⟩, .add ⟨2, 20⟩]).mem ⟨1, 10⟩ = false := by decide +kernel

example : Built ((ofList [⟨1, 10⟩, ⟨2, 20⟩]).add ⟨1, 11⟩ + ofList [⟨2, 21⟩]) :=
  .plus (.add _ (.ofList _)) (.ofList _)

end Lt.Props.C01
