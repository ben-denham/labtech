import LabtechModel.Proofs.ParamsCache
/-!
# C15 — Tasks are immutable values with consistent equality, hashing and copying

Model: `normalize` (`immutable_param_value`), `construct` (`_task_post_init`), `findTasksRaw` /
`findTasks` / `directDeps` (`find_tasks_in_param`, `get_direct_dependencies`), `getstate` / `setstate`
(`_task__getstate__`, `_task__setstate__`).

A normalised value has type `Value`, which has no constructor for a list, a mutable dict, an
unsupported object or a non-string key; `embed : Value → Raw` places it back among the raw values so
that "normal" is a checkable predicate (`Raw.normal`) and not only a typing fact.  The serialiser
`serValue : Value → Json` is a total function on that type, i.e. it accepts every normal form.
Frozen-ness, Python's `==`/`hash` agreement and the pickle protocols are facts about CPython objects;
they are checked on the real objects by `harness/props/c15.py`.
-/
namespace Lt.Params.C15
open Lt.Params

/-- the result of normalisation is the input with every list respelled as a tuple and every dict as a
frozendict — nothing dropped, reordered or otherwise changed — and contains no list, no mutable dict,
no unsupported value and no non-string key at any depth -/
theorem normalize_normal (r : Raw) (v : Value) (h : normalize r = .ok v) :
    embed v = freeze r ∧ (embed v).normal = true :=
  ⟨normalize_spec r v h, embed_normal v⟩

/-- construction rejects exactly the values that have an unsupported value or a non-string dict key at
a visited position (any depth; the inside of already constructed nested tasks is not visited again) … -/
theorem normalize_rejects_iff (r : Raw) : (∃ e, normalize r = .error e) ↔ r.bad = true := by
  constructor
  · rintro ⟨e, h⟩; exact ((normalize_failsIff r).of_error h).1
  · intro h; exact ⟨_, (normalize_failsIff r).error h⟩

/-- … and always with `TaskError` -/
theorem normalize_error_class (r : Raw) (e : Err) (h : normalize r = .error e) : e = .taskError :=
  ((normalize_failsIff r).of_error h).2

/-- normalising what normalisation produced changes nothing -/
theorem normalize_idem (r : Raw) (v : Value) (_h : normalize r = .ok v) : normalize (embed v) = .ok v :=
  normalize_embed v

/-- the dependency search accepts whatever normalisation accepts — before and after normalisation —
and finds the same tasks in the same order -/
theorem findTasks_normalize (r : Raw) (v : Value) (h : normalize r = .ok v) :
    findTasksRaw r = .ok (findTasks v) ∧ findTasksRaw (embed v) = .ok (findTasks v) :=
  ⟨findTasksRaw_of_normalize r v h, findTasksRaw_of_normalize _ _ (normalize_embed v)⟩

/-- `get_direct_dependencies`: every task found in the fields, each equality class once, in discovery order -/
theorem directDeps_spec (t : Task) :
    (∀ u, u ∈ directDeps t ↔ u ∈ findFields t.fields) ∧ (directDeps t).Nodup ∧ (directDeps t).Sublist (findFields t.fields) := by
  obtain ⟨r, hr, hs, hn, hm⟩ := foldl_addO (findFields t.fields) [] List.nodup_nil
  rw [directDeps, hr]
  exact ⟨by simpa using hm, hn, hs⟩

/-- a constructor call succeeds iff no argument has a bad position; otherwise it raises `TaskError` -/
theorem construct_accepts_iff {D : Type} (env : Env D) (cls : ClassRef) (fs : List (String × Raw)) :
    ((∃ o, construct env cls fs = .ok o) ↔ ∀ kv ∈ fs, kv.2.bad = false)
    ∧ (∀ e, construct env cls fs = .error e → e = .taskError) :=
  ⟨by rw [(construct_failsIff env cls fs).ok_iff, List.any_eq_false]; simp,
   fun _ h => ((construct_failsIff env cls fs).of_error h).2⟩

/-- a freshly constructed task holds the normal forms, the key of its type's cache, and no results map,
context or result meta; and what `post_init` derives -/
theorem construct_fields {D : Type} (env : Env D) (cls : ClassRef) (fs : List (String × Raw)) (o : TaskObj D)
    (h : construct env cls fs = .ok o) :
    o.value.cls = cls ∧ normFields fs = .ok o.value.fields ∧ o.cacheKey = cacheKey env.sha1 (env.cacheOf cls) o.value
    ∧ o.resultsMap = none ∧ o.context = none ∧ o.resultMeta = none ∧ o.derived = env.postInit o.value := by
  simp only [construct] at h
  cases hn : normFields fs with
  | error e => simp [hn] at h
  | ok vs =>
    simp only [hn, Except.ok.injEq] at h
    subst h
    simp [mkObj, Task.cls, Task.fields]

/-- tasks of different types are different values, whatever their parameters -/
theorem ne_of_type (c₁ c₂ : ClassRef) (f₁ f₂ : List (String × Value)) (h : c₁ ≠ c₂) : Task.mk c₁ f₁ ≠ Task.mk c₂ f₂ := by
  intro e
  injection e with e _
  exact h e

/-- equality of task values is decided by the typed structural comparison (same type, equal
parameters at every depth) -/
theorem eq_iff_beq (t u : Task) : t = u ↔ Task.beq t u = true :=
  (Task.beq_iff t u).symm

/-- **Pickling.** The copy has the same value (hence is equal and finds the same dependencies), the same
cache key, no results map, no context, no result meta, and carries again what `post_init` derives. -/
theorem pickle_eq {D : Type} (env : Env D) (o : TaskObj D) :
    ∃ o', pickleRoundTrip env o = .ok o' ∧ o'.value = o.value ∧ o'.cacheKey = o.cacheKey
      ∧ directDeps o'.value = directDeps o.value ∧ o'.resultsMap = none ∧ o'.context = none
      ∧ o'.resultMeta = none ∧ o'.derived = env.postInit o.value :=
  ⟨_, pickleRoundTrip_eq env o, rfl, rfl, rfl, rfl, rfl, rfl, rfl⟩

/-- for an object that came out of the constructor, the copy differs from it in nothing but the
result meta / context / results map it may have been given since -/
theorem pickle_of_constructed {D : Type} (env : Env D) (t : Task) :
    pickleRoundTrip env (mkObj env t) = .ok (mkObj env t) := by
  rw [pickleRoundTrip_eq]; rfl

/-! ### non-vacuity -/
def leaf : Task := .mk ⟨"ptasks", "Leaf"⟩ [("x", .scalar (.int 1))]
/-- `[Leaf(1), {"k": [1.0, Leaf(1)]}, (None,)]` -/
def rawOk : Raw := .list [.task leaf, .dict [(.str "k", .list [.scalar (.float "1.0"), .task leaf])], .tuple [.scalar .none]]
/-- `[1, {"k": frozendict({2: 2})}]`: a non-`str` key two levels down -/
def rawBadKey : Raw := .list [.scalar (.int 1), .dict [(.str "k", .fdict [(.other, .scalar (.int 2))])]]
def rawBadVal : Raw := .tuple [.tuple [.unsupported]]

example : rawOk.bad = false ∧ rawBadKey.bad = true ∧ rawBadVal.bad = true := by decide +kernel
example : normalize rawOk = .ok (.tuple [.task leaf, .dict [("k", .tuple [.scalar (.float "1.0"), .task leaf])], .tuple [.scalar .none]]) := by
  rfl
example : normalize rawBadKey = .error .taskError := (normalize_failsIff _).error (by decide +kernel)
example : directDeps (.mk ⟨"ptasks", "Box"⟩ [("a", .tuple [.task leaf, .task leaf]), ("b", .task leaf)]) = [leaf] := by
  decide +kernel

end Lt.Params.C15
