import LabtechModel.Proofs.StoreRefine
import LabtechModel.Proofs.LinkExample
import LabtechModel.Proofs.LinkDumps
/-!
# C08 — Cache contents evolve exactly as run / bust_cache / uncache dictate

`lab_refines_map`: for every operation history (any length) over `run_tasks`,
`run_tasks(bust_cache=True)`, `uncache_tasks`, `is_cached`, `cached_tasks`, from any well-formed disk
(in particular the empty one), the concrete storage (key directories written by `BaseCache.save`,
removed by `Storage.delete`, listed by `find_keys`) abstracts after every operation to the plain map
`Tid → Option Stored` that the specification computes, and every operation's output is the
specification's output (task listings compared as sets). The specification (`specRun`, `specUncache`,
`specCachedTasks` in `Model/Store.lean`) is then characterised directly: a run changes only entries of
tasks it executed (`run_changes_only_executed`), every changed entry is the fresh result of this run
(`run_changed_entries_are_fresh`), without `bust_cache` a cached task is never executed and keeps its
entry (`run_keeps_cached`), with `bust_cache` exactly the whole planned closure is executed
(`bust_executes_closure`), `uncache_tasks` removes exactly the named entries (`uncache_removes_exactly`),
and `cache=None` types / `storage=None` never persist anything (`null_inert`).

Hypotheses: `KeyInj U` (C07: distinct tasks, distinct keys), `∀ T, U.namePrefix T T` (a qualname is a
prefix of itself), `Wf U d` for the initial disk (every entry was written by `BaseCache.save`).

## Links to the other models (second half of this file; proofs in `Proofs/Link*.lean`)

**Link to the scheduler model (`Lt.run`, `Model/Run.lean`): the dependencies-first `labRun` summarises
every schedule.** `labRun_agrees_with_scheduler`: translate the universe, the run stamp `g`, the failing
set `fl` and the request into a scheduler problem (`Lt.Link.toProblem`: one object per task,
`children = deps`, `behave` = the body of `runTask`) and the disk into a scheduler store
(`Lt.Link.diskStore`: the value every task of the universe loads from it); then for EVERY backend,
`max_workers ≥ 1`, positive per-type limits and EVERY fair schedule that is long enough
(`continue_on_failure`, as the history model's Lab), the final store of `Lt.run` read as a map
tid ↦ value is the value part of the disk `labRun` leaves, `run_tasks` returns `labRun`'s dict, `run()`
is executed for exactly `labRun`'s `execd` and a load happens for exactly its `loaded`.
`specRun_agrees_with_scheduler` is the same on the specification map (no `KeyInj`, no `Wf`),
`scheduler_plans_neededFrom` identifies the scheduler's plan with `neededFrom`. Consequences on the
scheduler: `scheduler_outcome_schedule_independent`, `scheduler_keeps_cached` (loaded tasks untouched),
`scheduler_bust_executes_closure`, `scheduler_failed_execution_keeps_entry`. The proof goes through
`Props.C10.store_after_run` / `unrelated_tasks_return_reference` (`refEvalF`) and the closed form
`Lt.Link.specRun_closed` of the history model's fold. Hypothesis `Lt.Link.UOK`: dependencies have
smaller tids (the `Universe` convention), requested tids are `< U.n`.
NOT linked (the scheduler model has no such data): the start/duration metadata of an entry, and the
order of `execd` (linked as sets).

**Discharged: the hypothesis `KeyInj`.** `lab_refines_map_params` / `labRun_agrees_with_scheduler_params`
replace it by `Lt.Link.Represents` (the universe's type/hash numbers stand for the class strings / sha1
digests of real parameter trees of `Model/Params.lean`), `WfTasks` (`wfValue` at every depth — F07's input
class stays excluded exactly as in C07), `Distinct`, and the two named assumptions of C07: `ShaInjOn`
(sha1 collision-free on the pre-images that occur) and `DumpsInjOn` (`json.dumps` separates the documents
that occur); `Lt.Link.keyInj_of_params` is the derivation (`C07.serTask_injective_partial`,
`classRef_injective`; `keyInj_of_params_via_cacheKey` goes literally through the real key string and
`C07.cacheKey_injective_partial`).
-/
namespace Lt.Props.C08
open Lt.Store

/-- **refinement**, by induction over the history (unbounded length) -/
theorem lab_refines_map (U : Universe) (hinj : KeyInj U) (hpre : ∀ T, U.namePrefix T T = true)
    (ops : List Op) (d : Disk) (wf : Wf U d) :
    abs U (histC U d ops).1 = (histA U (abs U d) ops).1 ∧
    outsSame (histC U d ops).2 (histA U (abs U d) ops).2 ∧
    Wf U (histC U d ops).1 := by
  induction ops generalizing d with
  | nil => exact ⟨rfl, trivial, wf⟩
  | cons op ops ih =>
    have hop : abs U (opC U d op).1 = (opA U (abs U d) op).1 ∧ outSame (opC U d op).2 (opA U (abs U d) op).2 ∧
        Wf U (opC U d op).1 := by
      cases op with
      | run bust g req fl =>
        have r := run_refines U hinj bust g fl req d wf
        refine ⟨r.map, ?_, r.wf⟩
        simp only [opC, opA, outSame, returned, returnedA, r.vals, r.execd, r.loaded]
      | uncache ts =>
        have r := uncache_refines U hinj ts d wf
        exact ⟨r.2, rfl, r.1⟩
      | isCached t => exact ⟨rfl, congrArg Out.bool (labIsCached_eq U d t wf hinj), wf⟩
      | cachedTasks types =>
        exact ⟨rfl, fun t => cachedTasks_refines U hinj hpre types d wf t, wf⟩
    obtain ⟨h1, h2, h3⟩ := hop
    obtain ⟨i1, i2, i3⟩ := ih (opC U d op).1 h3
    simp only [histC, histA]
    rw [← h1]
    exact ⟨i1, ⟨h2, i2⟩, i3⟩

/-- `uncache_tasks` removes exactly the named entries and nothing else (concrete statement) -/
theorem uncache_removes_exactly (U : Universe) (hinj : KeyInj U) (ts : List Tid) (d : Disk) (wf : Wf U d) (t : Tid) :
    cLoad U (labUncache U d ts) t = if ts.contains t then none else cLoad U d t := by
  have := congrFun (uncache_refines U hinj ts d wf).2 t
  simpa [abs, specUncache] using this

/-- the three things one planned task can do: it is served from the map, or (nothing to serve it
    from) executed with or without a result -/
theorem stepA_cases (U : Universe) (bust : Bool) (g : Nat) (fl : List Tid) (a : AAcc) (t : Tid) :
    (∃ s, (if bust then none else a.map t) = some s ∧
      stepA U bust g fl a t = { a with vals := (t, some s.val) :: a.vals, loaded := (t, s) :: a.loaded }) ∨
    (if bust then none else a.map t) = none ∧
    ((∃ v, stepA U bust g fl a t =
      { a with map := if persists U t then aUpdate a.map t { val := v, start := metaStart g t, dur := metaDur g t }
                      else a.map,
               vals := (t, some v) :: a.vals, execd := t :: a.execd }) ∨
    (stepA U bust g fl a t = { a with vals := (t, none) :: a.vals, execd := t :: a.execd })) := by
  unfold stepA
  generalize (if bust then none else a.map t) = o
  cases o with
  | some s => exact Or.inl ⟨s, rfl, rfl⟩
  | none =>
    refine Or.inr ⟨rfl, ?_⟩
    cases runTask U g fl a.vals t with
    | some v => exact Or.inl ⟨v, rfl⟩
    | none => exact Or.inr rfl

/-- every entry a run adds or replaces belongs to a task this run executed, whose type caches and
    whose Lab has a storage, and holds this run's fresh result and meta -/
theorem run_changed_entries_are_fresh (U : Universe) (bust : Bool) (g : Nat) (fl : List Tid) (req : List Tid) (m : AMap) (x : Tid)
    (h : (specRun U bust g fl req m).map x ≠ m x) :
    x ∈ (specRun U bust g fl req m).execd ∧ persists U x = true ∧
    ∃ v, (specRun U bust g fl req m).map x = some { val := v, start := metaStart g x, dur := metaDur g x } := by
  refine foldl_inv (P := fun a : AAcc => ∀ y, a.map y ≠ m y → y ∈ a.execd ∧ persists U y = true ∧
      ∃ v, a.map y = some { val := v, start := metaStart g y, dur := metaDur g y })
    _ (fun a t _ h => ?_) (fun _ hy => absurd rfl hy) x h
  have old : ∀ y, a.map y ≠ m y → y ∈ t :: a.execd ∧ persists U y = true ∧
      ∃ v, a.map y = some { val := v, start := metaStart g y, dur := metaDur g y } :=
    fun y hy => ⟨List.mem_cons_of_mem _ (h y hy).1, (h y hy).2⟩
  rcases stepA_cases U bust g fl a t with ⟨s, -, e⟩ | ⟨-, ⟨v, e⟩ | e⟩ <;> rw [e]
  · exact h
  · -- executed with a result: the entry of `t` is the fresh one if `t` persists, all others are as before
    intro y hy
    by_cases hp : persists U t = true <;> simp only [hp, if_true] at hy ⊢
    · by_cases hyt : y = t
      · subst hyt; exact ⟨List.mem_cons_self .., hp, v, by simp [aUpdate]⟩
      · simp only [aUpdate, hyt, if_false] at hy ⊢; exact old y hy
    · exact old y hy
  · exact old

/-- a run leaves every entry of a task it did not execute exactly as it was -/
theorem run_changes_only_executed (U : Universe) (bust : Bool) (g : Nat) (fl : List Tid) (req : List Tid) (m : AMap) (x : Tid)
    (h : x ∉ (specRun U bust g fl req m).execd) : (specRun U bust g fl req m).map x = m x :=
  Decidable.byContradiction fun hne => h (run_changed_entries_are_fresh U bust g fl req m x hne).1

/-- without `bust_cache` a task that is cached is never executed, and its entry stays -/
theorem run_keeps_cached (U : Universe) (g : Nat) (fl : List Tid) (req : List Tid) (m : AMap) (x : Tid) (hx : (m x).isSome = true) :
    x ∉ (specRun U false g fl req m).execd ∧ (specRun U false g fl req m).map x = m x := by
  refine foldl_inv (P := fun a : AAcc => x ∉ a.execd ∧ a.map x = m x) _ (fun a t _ ⟨h1, h2⟩ => ?_) ⟨by simp, rfl⟩
  rcases stepA_cases U false g fl a t with ⟨s, -, e⟩ | ⟨hn, e⟩
  · rw [e]; exact ⟨h1, h2⟩
  · -- the executed task has no entry, `x` has one
    have hxt : x ≠ t := by rintro rfl; simp [h2] at hn; simp [hn] at hx
    rcases e with ⟨v, e⟩ | e <;> rw [e]
    · refine ⟨by simp [h1, hxt], ?_⟩
      show (if persists U t then aUpdate a.map t _ else a.map) x = m x
      split
      · simp [aUpdate, hxt, h2]
      · exact h2
    · exact ⟨by simp [h1, hxt], h2⟩

/-- with `bust_cache` nothing is loaded: the whole planned closure of the request is executed,
    dependencies first -/
theorem bust_executes_closure (U : Universe) (g : Nat) (fl : List Tid) (req : List Tid) (m : AMap) :
    (specRun U true g fl req m).execd = (neededFrom U (fun _ => false) req).reverse ∧
    (specRun U true g fl req m).loaded = [] := by
  simp only [specRun, Bool.not_true, Bool.false_and]
  generalize neededFrom U (fun _ => false) req = l
  suffices ∀ a : AAcc, (l.foldl (stepA U true g fl) a).execd = l.reverse ++ a.execd ∧
      (l.foldl (stepA U true g fl) a).loaded = a.loaded by simpa using this { map := m }
  induction l with
  | nil => intro a; simp
  | cons t ts ih =>
    intro a
    obtain ⟨i1, i2⟩ := ih (stepA U true g fl a t)
    rw [List.foldl, i1, i2]
    rcases stepA_cases U true g fl a t with ⟨s, hs, -⟩ | ⟨-, ⟨v, e⟩ | e⟩
    · cases hs
    all_goals rw [e]; simp

/-- `cache=None` types and `storage=None` Labs: no operation ever changes the disk, nothing is ever
    reported cached, nothing is listed -/
theorem null_inert (U : Universe) (h : U.nullStorage = true ∨ ∀ T, U.cacheOf T = .null) (ops : List Op) (d : Disk) :
    (histC U d ops).1 = d ∧ (∀ t, labIsCached U d t = false) ∧ (∀ t s, cLoad U d t ≠ some s) := by
  have hp : ∀ t, persists U t = false := by
    intro t; rcases h with h | h <;> simp [persists, cacheable, kindOf, h]
  have hunc : ∀ ts d, labUncache U d ts = d := by
    intro ts
    induction ts with
    | nil => intro d; rfl
    | cons t ts ih => intro d; simp [labUncache, cDelete_eq, hp, ih]
  have hstep : ∀ bust g fl (a : Acc) t, (stepC U bust g fl a t).disk = a.disk := by
    intro bust g fl a t
    unfold stepC
    split
    · split <;> rfl
    · split
      · simp [cSave_eq, hp]
      · rfl
  refine ⟨?_, fun t => by simp [labIsCached, cIsCached_eq, hp], fun t s => by simp [cLoad_eq, hp]⟩
  induction ops with
  | nil => rfl
  | cons op ops ih =>
    have hop : (opC U d op).1 = d := by
      cases op with
      | run bust g req fl => exact foldl_inv (P := fun a : Acc => a.disk = d) _ (fun a t _ h => (hstep ..).trans h) rfl
      | uncache ts => exact hunc ts d
      | isCached t => rfl
      | cachedTasks types => rfl
    simp only [histC]; rw [hop]; exact ih

/-- **a failed execution changes nothing**: whenever `run()` of a planned task fails in this run
    (it raises — always, or because this run's context says so — or a dependency result is missing),
    the step leaves the disk exactly as it was; in particular a valid entry of an earlier successful
    execution survives a failed `bust_cache` re-execution -/
theorem failed_execution_changes_nothing (U : Universe) (bust : Bool) (g : Nat) (fl : List Tid) (a : Acc) (t : Tid)
    (h : runTask U g fl a.vals t = none) : (stepC U bust g fl a t).disk = a.disk := by
  unfold stepC
  split
  · split <;> rfl
  · rw [h]

/-- … and on the specification: the entry of a task whose execution in this run failed is the
    entry it had before the run (the run's `vals` records the failure as `none`) -/
theorem run_failed_keeps_entry (U : Universe) (bust : Bool) (g : Nat) (fl : List Tid) (req : List Tid) (m : AMap) (x : Tid)
    (h : (specRun U bust g fl req m).map x ≠ m x) :
    ∃ v, (specRun U bust g fl req m).map x = some { val := v, start := metaStart g x, dur := metaDur g x } :=
  (run_changed_entries_are_fresh U bust g fl req m x h).2.2

/-- what `cached_tasks` attaches to a listed task as `result_meta` is the start/duration stored in
    that task's own entry, i.e. the meta a load of the task returns -/
theorem cached_task_meta_is_stored_meta (U : Universe) (d : Disk) (t : Tid) (s : Stored)
    (h : cLoad U d t = some s) : cachedTaskMeta U d t = some (s.start, s.dur) := by
  obtain ⟨-, e, he, -, rfl⟩ := cLoad_eq_some.mp h
  simp [cachedTaskMeta, he]

def exU : Universe :=
  { n := 4, ty := fun t => if t = 3 then 2 else if t = 2 then 1 else 0,
    cacheOf := fun T => if T = 0 then .pickle else if T = 1 then .other else .null,
    deps := fun t => if t = 2 then [0, 1] else if t = 3 then [2] else [], fails := fun t => t == 1,
    hash := fun t => t, value := fun t g vs => 1000 * t + g + vs.foldl (· + ·) 0,
    namePrefix := fun a b => a == b, nullStorage := false }

example : KeyInj exU ∧ (∀ T, exU.namePrefix T T = true) ∧ Wf exU [] := by
  refine ⟨?_, by simp [exU], wf_nil exU⟩
  intro t t' h
  simp [keyOf, exU] at h
  exact h.2.2

/-- a history with a failing task, a `cache=None` type, bust and uncache: outputs of the concrete
    model, step by step -/
example :
    (histC exU [] [.run false 1 [3] [], .isCached 0, .isCached 2, .isCached 3, .cachedTasks [0, 1, 2],
                  .run false 2 [0, 1] [], .run true 3 [0] [], .uncache [0, 3], .cachedTasks [0]]).2
    = [.ran [] [3, 2, 1, 0] [], .bool true, .bool false, .bool false, .tasks [0],
       .ran [(0, 1)] [1] [(0, { val := 1, start := 1, dur := 100 })], .ran [(0, 3)] [0] [],
       .unit, .tasks []] := by decide +kernel

/-- a cached task whose `bust_cache` re-execution fails (this run's context makes task 0 raise) keeps
    its entry: still reported cached, and the next plain run loads the OLD value with the OLD meta -/
example :
    (histC exU [] [.run false 1 [0] [], .run true 2 [0] [0], .isCached 0, .run false 3 [0] []]).2
    = [.ran [(0, 1)] [0] [], .ran [] [0] [], .bool true,
       .ran [(0, 1)] [] [(0, { val := 1, start := 1, dur := 100 })]] := by decide +kernel

example : runTask exU 2 [0] [] 0 = none ∧ runTask exU 2 [] [] 0 = some 2 := by decide

example : (histC { exU with nullStorage := true } [] [.run false 1 [0] [], .isCached 0]).2
    = [.ran [(0, 1)] [0] [], .bool false] := by decide

/-- **the dependency-first `labRun` is what the scheduler computes, whatever the schedule**: for every
    backend, `max_workers ≥ 1`, positive per-type limits, every fair schedule that is long enough, the
    final store of `Lt.run`, read as a map tid ↦ value, is the value part of the disk `labRun`
    leaves; `run_tasks` returns `labRun`'s result; `run()` is executed for exactly `labRun`'s `execd`
    and a load happens for exactly its `loaded`. (Not linked: start/duration metadata, which the
    scheduler model does not carry, and the order of `execd`.) -/
theorem labRun_agrees_with_scheduler (U : Universe) (hinj : KeyInj U)
    (mp : Nat → Option Nat) (g : Nat) (fl req : List Nat) (hU : Lt.Link.UOK U req)
    (d : Disk) (wf : Wf U d)
    (cfg : Lt.Config) (hcf : cfg.contOnFail = true) (fuel : Nat) (hF : ∀ t ∈ req, t < fuel)
    (hL : 0 < cfg.maxWorkers ∧ ∀ T L, mp T = some L → 0 < L)
    (sched : List Lt.Choice) (hfair : Lt.Fair sched)
    (hlen : (neededFrom U (fun t => !cfg.bust && labIsCached U d t) req).length + 1 ≤ sched.length) :
    (∀ t, Lt.lookup t (Lt.run cfg (Lt.Link.toProblem U mp g fl req) (Lt.Link.diskStore U d) fuel sched).store =
      (cLoad U (labRun U cfg.bust g fl req d).disk t).map (fun s => s.val)) ∧
    (Lt.run cfg (Lt.Link.toProblem U mp g fl req) (Lt.Link.diskStore U d) fuel sched).status =
      .returned (returned (Lt.dedup req) (labRun U cfg.bust g fl req d)) ∧
    (∀ t, (∃ seen, Lt.Ev.exec t seen ∈ (Lt.run cfg (Lt.Link.toProblem U mp g fl req) (Lt.Link.diskStore U d) fuel sched).trace) ↔
      t ∈ (labRun U cfg.bust g fl req d).execd) ∧
    (∀ t, Lt.Ev.load t ∈ (Lt.run cfg (Lt.Link.toProblem U mp g fl req) (Lt.Link.diskStore U d) fuel sched).trace ↔
      t ∈ (labRun U cfg.bust g fl req d).loaded.map Prod.fst) :=
  Lt.Link.labRun_agrees_with_scheduler_disk U hinj mp g fl req hU d wf cfg hcf fuel hF hL sched hfair hlen

/-- the same on the specification map, without `KeyInj` / `Wf`: any map `m` whose entries belong to
    persisting tasks, any scheduler store `st` holding the values of `m` -/
theorem specRun_agrees_with_scheduler (U : Universe) (mp : Nat → Option Nat) (g : Nat) (fl req : List Nat)
    (hU : Lt.Link.UOK U req) (cfg : Lt.Config) (m : AMap) (st : Lt.Store)
    (hrel : Lt.Link.StoreRel m st) (hmap : Lt.Link.MapOK U m) (fuel : Nat)
    (hcf : cfg.contOnFail = true) (hF : ∀ t ∈ req, t < fuel)
    (hL : 0 < cfg.maxWorkers ∧ ∀ T L, mp T = some L → 0 < L)
    (sched : List Lt.Choice) (hfair : Lt.Fair sched)
    (hlen : (neededFrom U (fun t => !cfg.bust && (m t).isSome) req).length + 1 ≤ sched.length) :
    (∀ t, Lt.lookup t (Lt.run cfg (Lt.Link.toProblem U mp g fl req) st fuel sched).store =
      ((specRun U cfg.bust g fl req m).map t).map (fun s => s.val)) ∧
    (Lt.run cfg (Lt.Link.toProblem U mp g fl req) st fuel sched).status =
      .returned (returnedA (Lt.dedup req) (specRun U cfg.bust g fl req m)) ∧
    (∀ t, (∃ seen, Lt.Ev.exec t seen ∈ (Lt.run cfg (Lt.Link.toProblem U mp g fl req) st fuel sched).trace) ↔
      t ∈ (specRun U cfg.bust g fl req m).execd) ∧
    (∀ t, Lt.Ev.load t ∈ (Lt.run cfg (Lt.Link.toProblem U mp g fl req) st fuel sched).trace ↔
      t ∈ (specRun U cfg.bust g fl req m).loaded.map Prod.fst) :=
  Lt.Link.specRun_agrees_with_scheduler U mp g fl req hU cfg m st hrel hmap fuel hcf hF hL sched hfair hlen

/-- the scheduler plans exactly the tasks `neededFrom` lists (the closure of the request through
    not-cached tasks) -/
theorem scheduler_plans_neededFrom (U : Universe) (mp : Nat → Option Nat) (g : Nat) (fl req : List Nat)
    (hU : Lt.Link.UOK U req) (cfg : Lt.Config) (m : AMap) (st : Lt.Store)
    (hrel : Lt.Link.StoreRel m st) (hmap : Lt.Link.MapOK U m) (fuel : Nat) (hF : ∀ t ∈ req, t < fuel) (t : Nat) :
    t ∈ (Lt.plan cfg (Lt.Link.toProblem U mp g fl req) st fuel).pending ↔
      t ∈ neededFrom U (fun t => !cfg.bust && (m t).isSome) req :=
  Lt.Link.planned_iff U mp g fl req hU cfg m st hrel hmap fuel hF t

/-- two runs of the same request from the same disk — any two backends, worker counts, per-type
    limits, fair schedules — leave the same store map and return the same dict -/
theorem scheduler_outcome_schedule_independent (U : Universe) (hinj : KeyInj U)
    (mp mp' : Nat → Option Nat) (g : Nat) (fl req : List Nat) (hU : Lt.Link.UOK U req)
    (d : Disk) (wf : Wf U d)
    (cfg cfg' : Lt.Config) (hb : cfg'.bust = cfg.bust) (hcf : cfg.contOnFail = true) (hcf' : cfg'.contOnFail = true)
    (fuel : Nat) (hF : ∀ t ∈ req, t < fuel)
    (hL : 0 < cfg.maxWorkers ∧ ∀ T L, mp T = some L → 0 < L)
    (hL' : 0 < cfg'.maxWorkers ∧ ∀ T L, mp' T = some L → 0 < L)
    (sched sched' : List Lt.Choice) (hfair : Lt.Fair sched) (hfair' : Lt.Fair sched')
    (hlen : (neededFrom U (fun t => !cfg.bust && labIsCached U d t) req).length + 1 ≤ sched.length)
    (hlen' : (neededFrom U (fun t => !cfg.bust && labIsCached U d t) req).length + 1 ≤ sched'.length) :
    (∀ t, Lt.lookup t (Lt.run cfg (Lt.Link.toProblem U mp g fl req) (Lt.Link.diskStore U d) fuel sched).store =
          Lt.lookup t (Lt.run cfg' (Lt.Link.toProblem U mp' g fl req) (Lt.Link.diskStore U d) fuel sched').store) ∧
    (Lt.run cfg (Lt.Link.toProblem U mp g fl req) (Lt.Link.diskStore U d) fuel sched).status =
      (Lt.run cfg' (Lt.Link.toProblem U mp' g fl req) (Lt.Link.diskStore U d) fuel sched').status := by
  have h1 := labRun_agrees_with_scheduler U hinj mp g fl req hU d wf cfg hcf fuel hF hL sched hfair hlen
  have h2 := labRun_agrees_with_scheduler U hinj mp' g fl req hU d wf cfg' hcf' fuel hF hL' sched' hfair'
    (by rw [hb]; exact hlen')
  rw [hb] at h2
  exact ⟨fun t => by rw [h1.1 t, h2.1 t], by rw [h1.2.1, h2.2.1]⟩

/-- **loaded tasks are untouched, on the scheduler**: without `bust_cache`, a task that is cached
    beforehand is never executed by any schedule and its store entry stays -/
theorem scheduler_keeps_cached (U : Universe) (hinj : KeyInj U)
    (mp : Nat → Option Nat) (g : Nat) (fl req : List Nat) (hU : Lt.Link.UOK U req)
    (d : Disk) (wf : Wf U d)
    (cfg : Lt.Config) (hb : cfg.bust = false) (hcf : cfg.contOnFail = true) (fuel : Nat) (hF : ∀ t ∈ req, t < fuel)
    (hL : 0 < cfg.maxWorkers ∧ ∀ T L, mp T = some L → 0 < L)
    (sched : List Lt.Choice) (hfair : Lt.Fair sched)
    (hlen : (neededFrom U (fun t => !cfg.bust && labIsCached U d t) req).length + 1 ≤ sched.length)
    (x : Nat) (hx : labIsCached U d x = true) :
    (∀ seen, Lt.Ev.exec x seen ∉ (Lt.run cfg (Lt.Link.toProblem U mp g fl req) (Lt.Link.diskStore U d) fuel sched).trace) ∧
    Lt.lookup x (Lt.run cfg (Lt.Link.toProblem U mp g fl req) (Lt.Link.diskStore U d) fuel sched).store =
      Lt.lookup x (Lt.Link.diskStore U d) := by
  obtain ⟨h1, _, h3, _⟩ := labRun_agrees_with_scheduler U hinj mp g fl req hU d wf cfg hcf fuel hF hL sched hfair hlen
  have r := run_refines U hinj cfg.bust g fl req d wf
  have hk := run_keeps_cached U g fl req (abs U d) x ((labIsCached_eq U d x wf hinj).symm.trans hx)
  rw [← hb] at hk
  exact ⟨fun seen hs => hk.1 (r.execd ▸ (h3 x).mp ⟨seen, hs⟩),
    by rw [h1 x, Lt.Link.diskStore_rel U hinj d wf x, r.load, hk.2]⟩

/-- **`bust_cache` re-executes the closure, on the scheduler**: every schedule executes exactly the
    whole planned closure of the request and loads nothing -/
theorem scheduler_bust_executes_closure (U : Universe) (hinj : KeyInj U)
    (mp : Nat → Option Nat) (g : Nat) (fl req : List Nat) (hU : Lt.Link.UOK U req)
    (d : Disk) (wf : Wf U d)
    (cfg : Lt.Config) (hb : cfg.bust = true) (hcf : cfg.contOnFail = true) (fuel : Nat) (hF : ∀ t ∈ req, t < fuel)
    (hL : 0 < cfg.maxWorkers ∧ ∀ T L, mp T = some L → 0 < L)
    (sched : List Lt.Choice) (hfair : Lt.Fair sched)
    (hlen : (neededFrom U (fun t => !cfg.bust && labIsCached U d t) req).length + 1 ≤ sched.length) :
    (∀ t, (∃ seen, Lt.Ev.exec t seen ∈ (Lt.run cfg (Lt.Link.toProblem U mp g fl req) (Lt.Link.diskStore U d) fuel sched).trace) ↔
      t ∈ neededFrom U (fun _ => false) req) ∧
    (∀ t, Lt.Ev.load t ∉ (Lt.run cfg (Lt.Link.toProblem U mp g fl req) (Lt.Link.diskStore U d) fuel sched).trace) := by
  obtain ⟨_, _, h3, h4⟩ := labRun_agrees_with_scheduler U hinj mp g fl req hU d wf cfg hcf fuel hF hL sched hfair hlen
  have r := run_refines U hinj cfg.bust g fl req d wf
  have hbe := bust_executes_closure U g fl req (abs U d)
  rw [← hb] at hbe
  refine ⟨fun t => ?_, fun t ht => ?_⟩
  · rw [h3 t, r.execd, hbe.1, List.mem_reverse]
  · have := (h4 t).mp ht
    rw [r.loaded, hbe.2] at this
    simp at this

/-- **a failed execution changes nothing, on the scheduler**: a task that has no result in this run
    (its `run()` raised, a dependency result was unavailable, or it is outside the plan) has, after
    any schedule, the store entry it had before -/
theorem scheduler_failed_execution_keeps_entry (U : Universe) (hinj : KeyInj U)
    (mp : Nat → Option Nat) (g : Nat) (fl req : List Nat) (hU : Lt.Link.UOK U req)
    (d : Disk) (wf : Wf U d)
    (cfg : Lt.Config) (hcf : cfg.contOnFail = true) (fuel : Nat) (hF : ∀ t ∈ req, t < fuel)
    (hL : 0 < cfg.maxWorkers ∧ ∀ T L, mp T = some L → 0 < L)
    (sched : List Lt.Choice) (hfair : Lt.Fair sched)
    (hlen : (neededFrom U (fun t => !cfg.bust && labIsCached U d t) req).length + 1 ≤ sched.length)
    (x : Nat) (hx : ∀ v, lookupV x (labRun U cfg.bust g fl req d).vals ≠ some (some v)) :
    Lt.lookup x (Lt.run cfg (Lt.Link.toProblem U mp g fl req) (Lt.Link.diskStore U d) fuel sched).store =
      Lt.lookup x (Lt.Link.diskStore U d) := by
  obtain ⟨h1, _, _, _⟩ := labRun_agrees_with_scheduler U hinj mp g fl req hU d wf cfg hcf fuel hF hL sched hfair hlen
  have r := run_refines U hinj cfg.bust g fl req d wf
  rw [r.vals] at hx
  have hk := Lt.Link.specRun_no_result_keeps_entry U g fl req hU cfg (abs U d) (Lt.Link.diskStore U d)
    (Lt.Link.diskStore_rel U hinj d wf) (Lt.Link.abs_mapOK U d) x hx
  rw [h1 x, Lt.Link.diskStore_rel U hinj d wf x, r.load, hk]

/-- `lab_refines_map` with `KeyInj` replaced by the C07 assumptions -/
theorem lab_refines_map_params (U : Universe) (sha1 : String → String) (task : Nat → Lt.Params.Task)
    (hrep : Lt.Link.Represents U sha1 task) (hwf : Lt.Link.WfTasks U.n task) (hdist : Lt.Link.Distinct U.n task)
    (hsha : Lt.Link.ShaInjOn sha1 U.n task) (hdumps : Lt.Link.DumpsInjOn U.n task)
    (hpre : ∀ T, U.namePrefix T T = true) (ops : List Op) (d : Disk) (wf : Wf U d) :
    abs U (histC U d ops).1 = (histA U (abs U d) ops).1 ∧
    outsSame (histC U d ops).2 (histA U (abs U d) ops).2 ∧
    Wf U (histC U d ops).1 :=
  lab_refines_map U (Lt.Link.keyInj_of_params U sha1 task hrep hwf hdist hsha hdumps) hpre ops d wf

/-- `labRun_agrees_with_scheduler` with `KeyInj` replaced by the C07 assumptions: the three
    separately validated models composed -/
theorem labRun_agrees_with_scheduler_params (U : Universe) (sha1 : String → String) (task : Nat → Lt.Params.Task)
    (hrep : Lt.Link.Represents U sha1 task) (hwf : Lt.Link.WfTasks U.n task) (hdist : Lt.Link.Distinct U.n task)
    (hsha : Lt.Link.ShaInjOn sha1 U.n task) (hdumps : Lt.Link.DumpsInjOn U.n task)
    (mp : Nat → Option Nat) (g : Nat) (fl req : List Nat) (hU : Lt.Link.UOK U req)
    (d : Disk) (wf : Wf U d)
    (cfg : Lt.Config) (hcf : cfg.contOnFail = true) (fuel : Nat) (hF : ∀ t ∈ req, t < fuel)
    (hL : 0 < cfg.maxWorkers ∧ ∀ T L, mp T = some L → 0 < L)
    (sched : List Lt.Choice) (hfair : Lt.Fair sched)
    (hlen : (neededFrom U (fun t => !cfg.bust && labIsCached U d t) req).length + 1 ≤ sched.length) :
    (∀ t, Lt.lookup t (Lt.run cfg (Lt.Link.toProblem U mp g fl req) (Lt.Link.diskStore U d) fuel sched).store =
      (cLoad U (labRun U cfg.bust g fl req d).disk t).map (fun s => s.val)) ∧
    (Lt.run cfg (Lt.Link.toProblem U mp g fl req) (Lt.Link.diskStore U d) fuel sched).status =
      .returned (returned (Lt.dedup req) (labRun U cfg.bust g fl req d)) :=
  let h := labRun_agrees_with_scheduler U (Lt.Link.keyInj_of_params U sha1 task hrep hwf hdist hsha hdumps)
    mp g fl req hU d wf cfg hcf fuel hF hL sched hfair hlen
  ⟨h.1, h.2.1⟩

/-! The links instantiated on the universe `Lt.Link.exPU` (three tasks with real parameter trees,
    `2 = Box(a=Leaf, b=Raw)` depends on `0 = Leaf` and `1 = Raw`, `Raw` has `cache=None`). -/

/-- all hypotheses of the two links hold together on `exPU` (its `KeyInj` comes from the params model) -/
example : KeyInj Lt.Link.exPU ∧ Lt.Link.UOK Lt.Link.exPU [2] ∧ Wf Lt.Link.exPU [] ∧
    Lt.Link.Represents Lt.Link.exPU Lt.Link.exSha Lt.Link.exTask ∧ Lt.Link.WfTasks 3 Lt.Link.exTask ∧
    Lt.Link.ShaInjOn Lt.Link.exSha 3 Lt.Link.exTask ∧ Lt.Link.DumpsInjOn 3 Lt.Link.exTask :=
  ⟨Lt.Link.exPU_keyInj, Lt.Link.exPU_uok [2] (by decide), wf_nil _, Lt.Link.exPU_represents,
   Lt.Link.exTask_wf, Lt.Link.exSha_injOn, Lt.Link.exTask_dumpsInj⟩

/-- the link theorem instantiated: for EVERY backend, with one worker and a per-type limit of 1, the
    slowest fair schedule returns what `labRun` returns -/
example (be : Lt.Backend) :
    (Lt.run { backend := be, maxWorkers := 1, contOnFail := true, bust := false }
      (Lt.Link.toProblem Lt.Link.exPU (fun _ => some 1) 1 [] [2]) (Lt.Link.diskStore Lt.Link.exPU []) 3
      (List.replicate 4 Lt.chooseFirst)).status =
    .returned (returned (Lt.dedup [2]) (labRun Lt.Link.exPU false 1 [] [2] [])) :=
  (labRun_agrees_with_scheduler Lt.Link.exPU Lt.Link.exPU_keyInj (fun _ => some 1) 1 [] [2]
    (Lt.Link.exPU_uok [2] (by decide)) [] (wf_nil _)
    { backend := be, maxWorkers := 1, contOnFail := true, bust := false } rfl 3 (by decide)
    ⟨Nat.zero_lt_one, fun T L h => by simp at h; omega⟩ _ (Lt.fair_replicate 4 Lt.chooseFirst rfl)
    (by
      show (neededFrom Lt.Link.exPU (fun t => !false && labIsCached Lt.Link.exPU [] t) [2]).length + 1
        ≤ (List.replicate 4 Lt.chooseFirst).length
      decide)).2.1

set_option maxRecDepth 100000 in
/-- concretely: a cold run, then a `bust_cache` run in which task 0 raises, then a plain
    run that loads — scheduler (fork, 2 workers / serial) and `labRun` side by side: same store map,
    same returned dict, same executed and loaded sets -/
example :
    let a1 := labRun Lt.Link.exPU false 1 [] [2] []
    let r1 := Lt.run { backend := .fork, maxWorkers := 2, contOnFail := true, bust := false }
      (Lt.Link.toProblem Lt.Link.exPU (fun _ => none) 1 [] [2]) (Lt.Link.diskStore Lt.Link.exPU []) 3
      (List.replicate 4 Lt.chooseAll)
    let a2 := labRun Lt.Link.exPU true 2 [0] [2] a1.disk
    let r2 := Lt.run { backend := .serial, maxWorkers := 2, contOnFail := true, bust := true }
      (Lt.Link.toProblem Lt.Link.exPU (fun _ => none) 2 [0] [2]) (Lt.Link.diskStore Lt.Link.exPU a1.disk) 3
      (List.replicate 4 Lt.chooseAll)
    let a3 := labRun Lt.Link.exPU false 3 [] [2, 1] a1.disk
    let r3 := Lt.run { backend := .spawn, maxWorkers := 2, contOnFail := true, bust := false }
      (Lt.Link.toProblem Lt.Link.exPU (fun _ => none) 3 [] [2, 1]) (Lt.Link.diskStore Lt.Link.exPU a1.disk) 3
      (List.replicate 4 Lt.chooseAll)
    Lt.Link.diskStore Lt.Link.exPU a1.disk = [(0, 1), (2, 3003)] ∧
    [0, 1, 2].map (fun t => Lt.lookup t r1.store) = [some 1, none, some 3003] ∧
    [0, 1, 2].map (fun t => (cLoad Lt.Link.exPU a1.disk t).map (fun s => s.val)) = [some 1, none, some 3003] ∧
    r1.status = .returned (returned [2] a1) ∧ a1.execd = [2, 1, 0] ∧ Lt.ranOf r1.trace = [0, 1, 2] ∧
    [0, 1, 2].map (fun t => Lt.lookup t r2.store) = [some 1, none, some 3003] ∧
    [0, 1, 2].map (fun t => (cLoad Lt.Link.exPU a2.disk t).map (fun s => s.val)) = [some 1, none, some 3003] ∧
    r2.status = .returned (returned [2] a2) ∧ returned [2] a2 = [] ∧ a2.execd = [2, 1, 0] ∧
    r3.status = .returned (returned [2, 1] a3) ∧ returned [2, 1] a3 = [(2, 3003), (1, 1003)] ∧
    a3.execd = [1] ∧ a3.loaded.map Prod.fst = [2] ∧ Lt.ranOf r3.trace = [2, 1] ∧ Lt.Ev.load 2 ∈ r3.trace := by
  -- the disks are read only through `cLoad`, and a load from the disk a run leaves is a lookup in the
  -- map of the specification run (`run_refines`): that compares task ids, where the disk compares keys,
  -- and a key of `exPU` holds a digest of the task's serialised parameter tree
  have h1 := run_refines Lt.Link.exPU Lt.Link.exPU_keyInj false 1 [] [2] [] (wf_nil _)
  have h2 := run_refines Lt.Link.exPU Lt.Link.exPU_keyInj true 2 [0] [2] _ h1.wf
  have h3 := run_refines Lt.Link.exPU Lt.Link.exPU_keyInj false 3 [] [2, 1] _ h1.wf
  have c1 := h1.load
  have c2 := h2.load
  rw [h1.map] at h2 h3 c2
  simp only [Lt.Link.diskStore, returned, c1, c2, h1.execd, h1.vals, h2.execd, h2.vals, h3.execd, h3.vals,
    h3.loaded]
  decide +kernel

end Lt.Props.C08

/-! The `json.dumps` assumption proved:
`DumpsInjOn` is a theorem (`Lt.Link.dumpsInjOn_of_wfFloats`, from `Lt.Params.dumps_injective`,
`Proofs/DumpsInj.lean`) for every family of tasks whose float parameters carry float tokens
(`Lt.Link.WfFloatsOn`, decidable per task).  `ShaInjOn` is the one named assumption that remains. -/
namespace Lt.Props.C08
open Lt.Store

/-- `lab_refines_map_params` without the `json.dumps` assumption -/
theorem lab_refines_map_params_dumps_proved (U : Universe) (sha1 : String → String) (task : Nat → Lt.Params.Task)
    (hrep : Lt.Link.Represents U sha1 task) (hwf : Lt.Link.WfTasks U.n task) (hdist : Lt.Link.Distinct U.n task)
    (hsha : Lt.Link.ShaInjOn sha1 U.n task) (hfl : Lt.Link.WfFloatsOn U.n task)
    (hpre : ∀ T, U.namePrefix T T = true) (ops : List Op) (d : Disk) (wf : Wf U d) :
    abs U (histC U d ops).1 = (histA U (abs U d) ops).1 ∧
    outsSame (histC U d ops).2 (histA U (abs U d) ops).2 ∧
    Wf U (histC U d ops).1 :=
  lab_refines_map_params U sha1 task hrep hwf hdist hsha (Lt.Link.dumpsInjOn_of_wfFloats U.n task hfl)
    hpre ops d wf

/-- `labRun_agrees_with_scheduler_params` without the `json.dumps` assumption -/
theorem labRun_agrees_with_scheduler_params_dumps_proved (U : Universe) (sha1 : String → String)
    (task : Nat → Lt.Params.Task)
    (hrep : Lt.Link.Represents U sha1 task) (hwf : Lt.Link.WfTasks U.n task) (hdist : Lt.Link.Distinct U.n task)
    (hsha : Lt.Link.ShaInjOn sha1 U.n task) (hfl : Lt.Link.WfFloatsOn U.n task)
    (mp : Nat → Option Nat) (g : Nat) (fl req : List Nat) (hU : Lt.Link.UOK U req)
    (d : Disk) (wf : Wf U d)
    (cfg : Lt.Config) (hcf : cfg.contOnFail = true) (fuel : Nat) (hF : ∀ t ∈ req, t < fuel)
    (hL : 0 < cfg.maxWorkers ∧ ∀ T L, mp T = some L → 0 < L)
    (sched : List Lt.Choice) (hfair : Lt.Fair sched)
    (hlen : (neededFrom U (fun t => !cfg.bust && labIsCached U d t) req).length + 1 ≤ sched.length) :
    (∀ t, Lt.lookup t (Lt.run cfg (Lt.Link.toProblem U mp g fl req) (Lt.Link.diskStore U d) fuel sched).store =
      (cLoad U (labRun U cfg.bust g fl req d).disk t).map (fun s => s.val)) ∧
    (Lt.run cfg (Lt.Link.toProblem U mp g fl req) (Lt.Link.diskStore U d) fuel sched).status =
      .returned (returned (Lt.dedup req) (labRun U cfg.bust g fl req d)) :=
  labRun_agrees_with_scheduler_params U sha1 task hrep hwf hdist hsha
    (Lt.Link.dumpsInjOn_of_wfFloats U.n task hfl) mp g fl req hU d wf cfg hcf fuel hF hL sched hfair hlen

/-- non-vacuity: all hypotheses of the `_dumps_proved` links hold together on `exPU` -/
example : Lt.Link.UOK Lt.Link.exPU [2] ∧ Wf Lt.Link.exPU [] ∧
    Lt.Link.Represents Lt.Link.exPU Lt.Link.exSha Lt.Link.exTask ∧ Lt.Link.WfTasks 3 Lt.Link.exTask ∧
    Lt.Link.Distinct 3 Lt.Link.exTask ∧
    Lt.Link.ShaInjOn Lt.Link.exSha 3 Lt.Link.exTask ∧ Lt.Link.WfFloatsOn 3 Lt.Link.exTask ∧
    (∀ T, Lt.Link.exPU.namePrefix T T = true) :=
  ⟨Lt.Link.exPU_uok [2] (by decide), wf_nil _, Lt.Link.exPU_represents,
   Lt.Link.exTask_wf, Lt.Link.exTask_distinct, Lt.Link.exSha_injOn, Lt.Link.exTask_wfFloats,
   fun T => by simp [Lt.Link.exPU, Lt.Link.paramsUniverse, Lt.Link.exBase]⟩

end Lt.Props.C08
