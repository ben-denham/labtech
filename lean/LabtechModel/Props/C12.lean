import LabtechModel.Proofs.SaveExec
/-!
# C12 — A save that fails leaves no entry that looks cached

Over the micro-step model of `BaseCache.save` (`Model/Save.lean`). Quantified over: every number of
write calls on either file (`n+1`, `m+1`), every pre-state of the entry that is itself safe (first
save: absent; overwrite: a good entry of an earlier save), every single fault position `k` in the
micro-step list — including "serialising raises" (`k = 0`, outside the `try`), "pickling raises after
`j` frames were written" (a `writeData` step raising), "close raises" — with the failing step having
had its effect or not. Single fault: the `storage.delete` of the handler itself works (`Del.ok`);
what a second fault inside that delete can leave is shown by the last `example` (outside the
property's quantifier "every single-fault injection point").
-/
namespace Lt.Props.C12
open Lt.Save

/-- a fault anywhere inside the `try` ends with the entry deleted (the handler's `storage.delete(key)`) -/
theorem failed_save_leaves_absent (n m : Nat) (new : Ver) (pre : Entry) (k : Nat) (eff : Bool)
    (h1 : 1 ≤ k) (h2 : k ≤ total n m) :
    (faultSave n m new pre k eff .ok).entry = .absent := by
  simp only [faultSave]
  rw [if_neg (by omega), if_pos h2]
  rfl

/-- a fault while building the metadata (before the `try`) touches nothing -/
theorem serialise_fault_untouched (n m : Nat) (new : Ver) (pre : Entry) (eff : Bool) (del : Del) :
    (faultSave n m new pre 0 eff del).entry = pre := by
  simp [faultSave]

/-- a save that no fault strikes ends with the complete new entry, whatever was there before -/
theorem unfaulted_save_complete (n m : Nat) (new : Ver) (pre : Entry) (k : Nat) (eff : Bool) (del : Del)
    (h : total n m < k) :
    (faultSave n m new pre k eff del).entry = .dir (.full new) (.full new) := by
  simp only [faultSave]
  rw [if_neg (by omega), if_neg (by omega), exec_eq_closed, closed_done (k := total n m) (Nat.le_refl _)]
  cases pre <;> rfl

/-- **C12**: for every save, every write count, every single fault position and both variants of the
    failing step, the entry afterwards is not reported cached, or loads the value *and* meta of one
    save that is legitimate for this task (the one being saved, or the earlier good one). -/
theorem failed_save_safe (n m : Nat) (new : Ver) (good : List Ver) (pre : Entry) (k : Nat) (eff : Bool)
    (hpre : safeB good pre = true) (hnew : new ∈ good) :
    safeB good (faultSave n m new pre k eff .ok).entry = true := by
  by_cases h0 : k = 0
  · subst h0; rw [serialise_fault_untouched]; exact hpre
  by_cases h2 : k ≤ total n m
  · rw [failed_save_leaves_absent n m new pre k eff (by omega) h2]; rfl
  · rw [unfaulted_save_complete n m new pre k eff .ok (by omega)]
    exact safeB_iff.mpr (Or.inr ⟨new, hnew, rfl⟩)

/-- the two pre-states the property names: first save and overwrite of a good entry -/
theorem failed_save_safe_first_or_overwrite (n m : Nat) (old new : Ver) (overwrite : Bool) (k : Nat) (eff : Bool) :
    safeB (goodOf overwrite old new) (faultSave n m new (preOf overwrite old) k eff .ok).entry = true := by
  apply failed_save_safe
  · cases overwrite
    · rfl
    · exact safeB_iff.mpr (Or.inr ⟨old, List.mem_cons_self .., rfl⟩)
  · cases overwrite <;> simp [goodOf]

/-- every fault inside the save makes `save` raise, so `run_or_load_task` raises and the task is
    reported failed -/
theorem failed_save_reports_failure (n m : Nat) (new : Ver) (pre : Entry) (k : Nat) (eff : Bool) (del : Del)
    (h : k ≤ total n m) :
    (faultSave n m new pre k eff del).raised = true ∧
    runOrLoadOutcome (faultSave n m new pre k eff del) = .failed := by
  have : (faultSave n m new pre k eff del).raised = true := by
    simp only [faultSave]
    by_cases h0 : k = 0
    · simp [h0]
    · rw [if_neg h0, if_pos h]
  exact ⟨this, by simp [runOrLoadOutcome, this]⟩

/-- `cached_tasks` after a failed save: it does not raise, it does not list the entry after a fault
    inside the `try`, and whenever it lists the entry, the entry loads (value and meta of one
    legitimate save) -/
theorem failed_save_not_listed (n m : Nat) (new : Ver) (good : List Ver) (pre : Entry) (k : Nat) (eff : Bool)
    (hpre : safeB good pre = true) (hnew : new ∈ good) :
    (1 ≤ k → k ≤ total n m → listing (faultSave n m new pre k eff .ok).entry = .notListed) ∧
    listing (faultSave n m new pre k eff .ok).entry ≠ .raises ∧
    (∀ mv, listing (faultSave n m new pre k eff .ok).entry = .listed mv →
      mv ∈ good ∧ load (faultSave n m new pre k eff .ok).entry = .ok mv mv) := by
  refine ⟨fun h1 h2 => by rw [failed_save_leaves_absent n m new pre k eff h1 h2]; rfl, ?_⟩
  -- a safe entry is absent (not listed) or the complete entry of one good save (listed, and loads)
  rcases safeB_iff.mp (failed_save_safe n m new good pre k eff hpre hnew) with e | ⟨v, hv, e⟩ <;> rw [e]
  · exact ⟨nofun, nofun⟩
  · exact ⟨nofun, fun mv h => by cases h; exact ⟨hv, rfl⟩⟩

/-- why the handler is there (the defect D7 repaired by commit c5142b0): the same save *without*
    the cleanup leaves, for a fault at any step from the first `open` up to the last data write, a
    first-save entry that is reported cached and does not load -/
theorem cleanup_is_needed (n m : Nat) (new : Ver) (k : Nat) (h1 : 3 ≤ k) (h2 : k ≤ 9 + n + m) :
    isCached (faultSaveNoCleanup n m new .absent k false) = true ∧
    load (faultSaveNoCleanup n m new .absent k false) = .fails := by
  simp only [faultSaveNoCleanup, Bool.false_eq_true, if_false, exec_eq_closed]
  by_cases h3 : k = 3
  · subst h3; exact ⟨rfl, rfl⟩
  by_cases h5 : k ≤ 5 + n
  · rw [closed_metaOpen (by omega) h5]
    simp only [closeOnError, apply, mkdirE, setMeta]
    split <;> simp [isCached, load]
  by_cases h8 : k ≤ 8 + n
  · rw [closed_between (by omega) h8]; exact ⟨rfl, rfl⟩
  rw [closed_dataOpen (by omega) (by omega)]
  simp only [closeOnError, apply, mkdirE, setMeta, setData]
  have : ¬ (k - 9 - n = m + 1) := by omega
  simp [this, isCached, load]

/-- a multi-frame save (3 metadata writes, 4 data writes) overwriting a good entry, the 2nd data
    write raising after its effect: entry gone, failure reported -/
example : faultSave 2 3 1 (preOf true 0) 13 true .ok = { entry := .absent, raised := true } := by decide

/-- serialising raises during an overwrite: the earlier entry is still there and loads -/
example : (faultSave 2 3 1 (preOf true 0) 0 false .ok).entry = .dir (.full 0) (.full 0) ∧
    safeB (goodOf true 0 1) (faultSave 2 3 1 (preOf true 0) 0 false .ok).entry = true := by decide

/-- the hypotheses of `failed_save_safe` are satisfiable in both modes -/
example : safeB (goodOf false 0 1) (preOf false 0) = true ∧ safeB (goodOf true 0 1) (preOf true 0) = true ∧
    (1 : Ver) ∈ goodOf false 0 1 ∧ (1 : Ver) ∈ goodOf true 0 1 := by decide

/-- without the handler (code before commit c5142b0): an unpicklable result (first data write
    raises) leaves a cached-looking entry that does not load -/
example : isCached (faultSaveNoCleanup 0 0 1 .absent 9 false) = true ∧
    load (faultSaveNoCleanup 0 0 1 .absent 9 false) = .fails := by decide

/-- double fault (outside the property's quantifier): if the handler's `storage.delete` fails too
    after removing only the result file, a cached-looking unloadable entry remains -/
example : safeB [1] (faultSave 0 0 1 .absent 9 false (.failed false true)).entry = false := by decide

end Lt.Props.C12
