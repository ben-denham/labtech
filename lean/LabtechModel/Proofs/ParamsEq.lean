import LabtechModel.Model.Params
/-! Typed structural equality of parameter values is decidable; `beq` decides it. -/
namespace Lt.Params

mutual
theorem Value.beq_eq : ∀ (a b : Value), Value.beq a b = true → a = b
  | .scalar a, b => fun h => by
    cases b <;> simp [Value.beq] at h
    rw [h]
  | .enum c n, b => fun h => by
    cases b <;> simp [Value.beq] at h
    rw [h.1, h.2]
  | .tuple a, b => fun h => by
    cases b <;> simp [Value.beq] at h
    rw [beqList_eq a _ h]
  | .dict a, b => fun h => by
    cases b <;> simp [Value.beq] at h
    rw [beqFields_eq a _ h]
  | .task a, b => fun h => by
    cases b <;> simp [Value.beq] at h
    rw [Task.beq_eq a _ h]
termination_by structural a => a
theorem Task.beq_eq : ∀ (a b : Task), Task.beq a b = true → a = b
  | .mk c f, .mk c' f' => fun h => by
    simp only [Task.beq, Bool.and_eq_true, beq_iff_eq] at h
    rw [h.1, beqFields_eq f f' h.2]
theorem beqList_eq : ∀ (a b : List Value), beqList a b = true → a = b
  | [], [] => fun _ => rfl
  | x :: xs, y :: ys => fun h => by
    simp only [beqList, Bool.and_eq_true] at h
    rw [Value.beq_eq x y h.1, beqList_eq xs ys h.2]
  | [], _ :: _ | _ :: _, [] => fun h => by simp [beqList] at h
theorem beqFields_eq : ∀ (a b : List (String × Value)), beqFields a b = true → a = b
  | [], [] => fun _ => rfl
  | (k, x) :: xs, (k', y) :: ys => fun h => by
    simp only [beqFields, Bool.and_eq_true, beq_iff_eq] at h
    rw [h.1.1, Value.beq_eq x y h.1.2, beqFields_eq xs ys h.2]
  | [], _ :: _ | _ :: _, [] => fun h => by simp [beqFields] at h
end

mutual
theorem Value.beq_refl : ∀ (a : Value), Value.beq a a = true
  | .scalar a => by simp [Value.beq]
  | .enum c n => by simp [Value.beq]
  | .tuple a => by simp only [Value.beq]; exact beqList_refl a
  | .dict a => by simp only [Value.beq]; exact beqFields_refl a
  | .task a => by simp only [Value.beq]; exact Task.beq_refl a
theorem Task.beq_refl : ∀ (a : Task), Task.beq a a = true
  | .mk c f => by simp [Task.beq, beqFields_refl f]
theorem beqList_refl : ∀ (a : List Value), beqList a a = true
  | [] => by simp [beqList]
  | x :: xs => by simp [beqList, Value.beq_refl x, beqList_refl xs]
theorem beqFields_refl : ∀ (a : List (String × Value)), beqFields a a = true
  | [] => by simp [beqFields]
  | (k, x) :: xs => by simp [beqFields, Value.beq_refl x, beqFields_refl xs]
end

theorem Task.beq_iff (a b : Task) : Task.beq a b = true ↔ a = b :=
  ⟨Task.beq_eq a b, fun h => h ▸ Task.beq_refl a⟩

theorem Value.beq_iff (a b : Value) : Value.beq a b = true ↔ a = b :=
  ⟨Value.beq_eq a b, fun h => h ▸ Value.beq_refl a⟩

instance : DecidableEq Task := fun a b => decidable_of_iff _ (Task.beq_iff a b)
instance : DecidableEq Value := fun a b => decidable_of_iff _ (Value.beq_iff a b)

end Lt.Params
