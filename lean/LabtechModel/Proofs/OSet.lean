import LabtechModel.Model.OSet
import LabtechModel.Model.Run
/-! Lemmas about the `OrderedSet` model (`Model/OSet.lean`): everything observable is a function of the KEY list, and
the key list evolves by `kins` (append the object unless its class is present).  `foldl kins []` keeps the first
object of every class (`firstOcc`), whose classes are the run model's `dedup` (`firstOcc_cls`). -/
namespace Lt.OSet
open Lt

/-- `d[k] = …` seen on the key list: a key object of a new class is appended, otherwise nothing changes -/
def kins (ks : List Elem) (k : Elem) : List Elem := if hasCls k.cls ks then ks else ks ++ [k]

/-- first occurrence of every class, in order -/
def firstOcc : List Elem → List Elem
  | [] => []
  | x :: xs => x :: (firstOcc xs).filter (fun y => y.cls ≠ x.cls)

/-- the key list holds at most one object per class -/
def WF (s : OSet) : Prop := (s.toList.map Elem.cls).Nodup

theorem hasCls_iff (c : Nat) (ks : List Elem) : hasCls c ks = true ↔ c ∈ ks.map Elem.cls := by
  simp only [hasCls, List.any_eq_true, List.mem_map, beq_iff_eq]

theorem hasCls_false_iff (c : Nat) (ks : List Elem) : hasCls c ks = false ↔ c ∉ ks.map Elem.cls := by
  rw [← hasCls_iff]; simp

theorem hasCls_append (c : Nat) (a b : List Elem) : hasCls c (a ++ b) = (hasCls c a || hasCls c b) := by
  simp [hasCls]

theorem hasCls_cons (c : Nat) (k : Elem) (ks : List Elem) : hasCls c (k :: ks) = (k.cls == c || hasCls c ks) := by
  simp [hasCls]

theorem hasCls_nil (c : Nat) : hasCls c [] = false := rfl

theorem keys_dset (k v : Elem) (d : List (Elem × Elem)) :
    (dset k v d).map Prod.fst = kins (d.map Prod.fst) k := by
  induction d with
  | nil => simp [dset, kins, hasCls]
  | cons kv rest ih =>
    obtain ⟨k', v'⟩ := kv
    simp only [dset]
    split
    · next h => simp [kins, hasCls_cons, h]
    · next h =>
      simp only [List.map_cons, ih, kins, hasCls_cons]
      have : (k'.cls == k.cls) = false := by simpa using h
      simp only [this, Bool.false_or]
      split <;> simp

theorem keys_dupdate (d o : List (Elem × Elem)) :
    (dupdate d o).map Prod.fst = (o.map Prod.fst).foldl kins (d.map Prod.fst) := by
  induction o generalizing d with
  | nil => simp [dupdate]
  | cons kv rest ih =>
    simp only [dupdate, List.foldl_cons, List.map_cons] at ih ⊢
    rw [ih, keys_dset]

theorem toList_empty : empty.toList = [] := rfl

theorem toList_add (s : OSet) (e : Elem) : (s.add e).toList = kins s.toList e := by
  simp [add, toList, keys_dset]

theorem toList_foldl_add (l : List Elem) (s : OSet) : (l.foldl add s).toList = l.foldl kins s.toList := by
  induction l generalizing s with
  | nil => rfl
  | cons x xs ih => simp only [List.foldl_cons, ih, toList_add]

theorem toList_ofList (l : List Elem) : (ofList l).toList = l.foldl kins [] := by
  simp [ofList, toList_foldl_add, toList_empty]

theorem toList_plus (a b : OSet) : (a + b).toList = (a.toList ++ b.toList).foldl kins [] := by
  show (plus a b).toList = _
  simp only [plus, toList, keys_dupdate, List.foldl_append, List.map_nil]

theorem toList_remove (s s' : OSet) (e : Elem) (h : s.remove e = some s') :
    s'.toList = s.toList.filter (fun y => y.cls ≠ e.cls) := by
  simp only [remove] at h
  split at h
  · simp only [Option.some.injEq] at h
    subst h
    simp only [toList, List.filter_map]
    rfl
  · cases h

theorem len_eq (s : OSet) : s.len = s.toList.length := by simp [len, toList]

theorem foldl_kins (l ks : List Elem) :
    l.foldl kins ks = ks ++ (firstOcc l).filter (fun y => !hasCls y.cls ks) := by
  induction l generalizing ks with
  | nil => simp [firstOcc]
  | cons x xs ih =>
    simp only [List.foldl_cons, ih, firstOcc, kins]
    by_cases hx : hasCls x.cls ks = true
    · simp only [hx, if_true, List.filter_cons, Bool.not_true, Bool.false_eq_true, if_false, List.filter_filter]
      congr 1
      apply List.filter_congr
      intro y _
      by_cases hy : y.cls = x.cls
      · simp [hy, hx]
      · simp [hy]
    · have hx' : hasCls x.cls ks = false := by simpa using hx
      simp only [hx', Bool.false_eq_true, if_false, List.filter_cons, Bool.not_false, if_true, List.filter_filter,
        List.append_assoc, List.singleton_append]
      congr 2
      apply List.filter_congr
      intro y _
      simp only [hasCls_append, hasCls_cons, hasCls_nil, Bool.or_false]
      by_cases hy : y.cls = x.cls
      · simp [hy]
      · have : (x.cls == y.cls) = false := by simpa using fun h => hy h.symm
        simp [hy, this]

theorem foldl_kins_nil (l : List Elem) : l.foldl kins [] = firstOcc l := by
  rw [foldl_kins]; simp [hasCls_nil]

theorem firstOcc_cls (l : List Elem) : (firstOcc l).map Elem.cls = dedup (l.map Elem.cls) := by
  induction l with
  | nil => simp [firstOcc, dedup]
  | cons x xs ih =>
    simp only [firstOcc, List.map_cons, dedup, ← ih, List.filter_map]
    rfl

theorem firstOcc_find (l : List Elem) (c : Nat) :
    (firstOcc l).find? (fun y => y.cls == c) = l.find? (fun y => y.cls == c) := by
  induction l with
  | nil => simp [firstOcc]
  | cons x xs ih =>
    simp only [firstOcc, List.find?_cons]
    by_cases hx : x.cls = c
    · simp [hx]
    · have : (x.cls == c) = false := by simpa using hx
      simp only [this, List.find?_filter, ← ih]
      congr 1
      funext y
      by_cases hy : y.cls = c
      · subst hy; simp; exact fun h => hx h.symm
      · simp [hy]

theorem mem_firstOcc_cls (l : List Elem) (c : Nat) : hasCls c (firstOcc l) = hasCls c l := by
  have h3 : c ∈ dedup (l.map Elem.cls) ↔ c ∈ l.map Elem.cls := by
    generalize l.map Elem.cls = m
    induction m with
    | nil => simp [dedup]
    | cons a b ih =>
      simp only [dedup, List.mem_cons, List.mem_filter, ih]
      by_cases hca : c = a <;> simp [hca]
  rw [Bool.eq_iff_iff, hasCls_iff, hasCls_iff, firstOcc_cls]
  exact h3

theorem nodup_dedup (l : List Nat) : (dedup l).Nodup := by
  induction l with
  | nil => simp [dedup]
  | cons a b ih =>
    simp only [dedup, List.nodup_cons, List.mem_filter]
    exact ⟨by simp, ih.filter _⟩

theorem firstOcc_of_nodup (l : List Elem) (h : (l.map Elem.cls).Nodup) : firstOcc l = l := by
  induction l with
  | nil => rfl
  | cons x xs ih =>
    simp only [List.map_cons, List.nodup_cons] at h
    simp only [firstOcc, ih h.2]
    congr 1
    rw [List.filter_eq_self]
    intro y hy
    have : y.cls ≠ x.cls := fun e => h.1 (e ▸ List.mem_map_of_mem hy)
    simpa using this

theorem wf_empty : WF empty := by simp [WF, toList_empty]

theorem wf_ofList (l : List Elem) : WF (ofList l) := by
  simp only [WF, toList_ofList, foldl_kins_nil, firstOcc_cls]
  exact nodup_dedup _

theorem wf_plus (a b : OSet) : WF (a + b) := by
  simp only [WF, toList_plus, foldl_kins_nil, firstOcc_cls]
  exact nodup_dedup _

theorem wf_add (s : OSet) (e : Elem) (h : WF s) : WF (s.add e) := by
  simp only [WF, toList_add, kins] at h ⊢
  split
  · exact h
  · next hc =>
    have hc' : e.cls ∉ s.toList.map Elem.cls := (hasCls_false_iff _ _).mp (by simpa using hc)
    rw [List.map_append, List.nodup_append]
    refine ⟨h, by simp, ?_⟩
    intro a ha b hb
    simp only [List.map_cons, List.map_nil, List.mem_singleton] at hb
    subst hb
    exact fun e' => hc' (e' ▸ ha)

theorem wf_remove (s s' : OSet) (e : Elem) (h : WF s) (hr : s.remove e = some s') : WF s' := by
  simp only [WF, toList_remove s s' e hr] at h ⊢
  exact (List.filter_sublist.map _).nodup h

theorem mem_add (s : OSet) (e x : Elem) : (s.add e).mem x = (s.mem x || e.cls == x.cls) := by
  simp only [mem, toList_add, kins]
  split
  · next h =>
    by_cases hx : e.cls = x.cls
    · simp [← hx, h]
    · simp [hx]
  · simp [hasCls_append, hasCls_cons, hasCls_nil]

theorem mem_remove (s s' : OSet) (e x : Elem) (hr : s.remove e = some s') :
    s'.mem x = (s.mem x && x.cls != e.cls) := by
  rw [Bool.eq_iff_iff]
  simp only [mem, toList_remove s s' e hr, hasCls_iff, List.mem_map, List.mem_filter, Bool.and_eq_true, bne_iff_ne,
    ne_eq, decide_eq_true_eq]
  constructor
  · rintro ⟨k, ⟨hk, h1⟩, h2⟩; exact ⟨⟨k, hk, h2⟩, h2 ▸ h1⟩
  · rintro ⟨⟨k, hk, h2⟩, h⟩; exact ⟨k, ⟨hk, h2 ▸ h⟩, h2⟩

theorem remove_none_iff (s : OSet) (e : Elem) : s.remove e = none ↔ s.mem e = false := by
  simp only [remove]
  split <;> simp_all

theorem mem_ofList (l : List Elem) (x : Elem) : (ofList l).mem x = hasCls x.cls l := by
  simp [mem, toList_ofList, foldl_kins_nil, mem_firstOcc_cls]

theorem mem_plus (a b : OSet) (x : Elem) : (a + b).mem x = (a.mem x || b.mem x) := by
  simp only [mem]
  rw [toList_plus, foldl_kins_nil, mem_firstOcc_cls, hasCls_append]

inductive Op where
  | add (e : Elem)
  | rem (e : Elem)
deriving DecidableEq, Repr

/-- one call; a `remove` that raises `KeyError` leaves the set as it was -/
def applyOp (s : OSet) : Op → OSet
  | .add e => s.add e
  | .rem e => (s.remove e).getD s

def runOps (s : OSet) (ops : List Op) : OSet := ops.foldl applyOp s

/-- is class `c` present after `ops`, given whether it was present before (`b`): the last `add`/`remove` of that
    class decides -/
def live (c : Nat) : List Op → Bool → Bool
  | [], b => b
  | .add e :: r, b => live c r (if e.cls = c then true else b)
  | .rem e :: r, b => live c r (if e.cls = c then false else b)

/-- no `remove` of class `c` in `ops` -/
def NoRem (c : Nat) (ops : List Op) : Prop := ∀ e, Op.rem e ∈ ops → e.cls ≠ c

theorem mem_applyOp (s : OSet) (op : Op) (x : Elem) :
    (applyOp s op).mem x = live x.cls [op] (s.mem x) := by
  cases op with
  | add e =>
    simp only [applyOp, mem_add, live]
    by_cases h : e.cls = x.cls <;> simp [h]
  | rem e =>
    simp only [applyOp, live]
    cases hr : s.remove e with
    | none =>
      have hm := (remove_none_iff s e).mp hr
      simp only [Option.getD_none]
      by_cases h : e.cls = x.cls
      · simp only [h, if_true]
        simpa [mem, h] using hm
      · simp [h]
    | some s' =>
      simp only [Option.getD_some, mem_remove s s' e x hr]
      by_cases h : e.cls = x.cls
      · simp [h]
      · have : x.cls ≠ e.cls := fun e' => h e'.symm
        simp [h, this]

theorem mem_runOps (ops : List Op) (s : OSet) (x : Elem) :
    (runOps s ops).mem x = live x.cls ops (s.mem x) := by
  induction ops generalizing s with
  | nil => rfl
  | cons op r ih =>
    simp only [runOps, List.foldl_cons] at ih ⊢
    rw [ih, mem_applyOp]
    cases op <;> simp [live]

theorem noRem_cons_add (c : Nat) (e : Elem) (r : List Op) : NoRem c (.add e :: r) ↔ NoRem c r := by
  simp [NoRem]

theorem noRem_cons_rem (c : Nat) (e : Elem) (r : List Op) : NoRem c (.rem e :: r) ↔ (e.cls ≠ c ∧ NoRem c r) := by
  simp only [NoRem, List.mem_cons, Op.rem.injEq]
  constructor
  · intro h; exact ⟨h e (Or.inl rfl), fun e' he' => h e' (Or.inr he')⟩
  · rintro ⟨h1, h2⟩ e' (rfl | he')
    · exact h1
    · exact h2 e' he'

/-- an `add` of the class followed by no `remove` of it is the head of the sequence or lies in its tail -/
theorem exists_add_cons (c : Nat) (op : Op) (r : List Op) :
    (∃ pre e post, op :: r = pre ++ Op.add e :: post ∧ e.cls = c ∧ NoRem c post) ↔
      (∃ e, op = .add e ∧ e.cls = c ∧ NoRem c r) ∨ ∃ pre e post, r = pre ++ Op.add e :: post ∧ e.cls = c ∧ NoRem c post := by
  constructor
  · rintro ⟨pre, e, post, h, hc, hn⟩
    cases pre with
    | nil => cases h; exact .inl ⟨e, rfl, hc, hn⟩
    | cons p pre => cases h; exact .inr ⟨pre, e, post, rfl, hc, hn⟩
  · rintro (⟨e, rfl, hc, hn⟩ | ⟨pre, e, post, rfl, hc, hn⟩)
    · exact ⟨[], e, r, rfl, hc, hn⟩
    · exact ⟨op :: pre, e, post, rfl, hc, hn⟩

/-- `live` spelled out: the class is present after `ops` iff some `add` of the class is followed by no `remove` of the
    class, or it was present before and no `remove` of the class occurs at all -/
theorem live_iff (c : Nat) (ops : List Op) (b : Bool) :
    live c ops b = true ↔
      (∃ pre e post, ops = pre ++ Op.add e :: post ∧ e.cls = c ∧ NoRem c post) ∨ (b = true ∧ NoRem c ops) := by
  induction ops generalizing b with
  | nil => simp [live, NoRem]
  | cons op r ih =>
    rw [exists_add_cons]
    cases op with
    | add e =>
      by_cases hec : e.cls = c
      · simp only [live, ih, noRem_cons_add, hec, if_true, true_and, Op.add.injEq, exists_eq_left']
        exact ⟨fun h => .inl h.symm, fun h => h.elim Or.symm fun h => .inr h.2⟩
      · simp [live, ih, noRem_cons_add, hec]
    | rem e => by_cases hec : e.cls = c <;> simp [live, ih, noRem_cons_rem, hec]

theorem wf_runOps (ops : List Op) (s : OSet) (h : WF s) : WF (runOps s ops) := by
  induction ops generalizing s with
  | nil => exact h
  | cons op r ih =>
    simp only [runOps, List.foldl_cons] at ih ⊢
    apply ih
    cases op with
    | add e => exact wf_add s e h
    | rem e =>
      simp only [applyOp]
      cases hr : s.remove e with
      | none => exact h
      | some s' => exact wf_remove s s' e h hr

/-- the sets reachable through the public interface: `OrderedSet()`, `OrderedSet(items)`, `s.add(e)`, a `s.remove(e)`
    that did not raise, `a + b` -/
inductive Built : OSet → Prop where
  | empty : Built empty
  | ofList (l : List Elem) : Built (ofList l)
  | add {s : OSet} (e : Elem) : Built s → Built (s.add e)
  | remove {s s' : OSet} (e : Elem) : Built s → s.remove e = some s' → Built s'
  | plus {a b : OSet} : Built a → Built b → Built (a + b)

theorem built_wf {s : OSet} (h : Built s) : WF s := by
  induction h with
  | empty => exact wf_empty
  | ofList l => exact wf_ofList l
  | add e _ ih => exact wf_add _ e ih
  | remove e _ hr ih => exact wf_remove _ _ e ih hr
  | plus _ _ _ _ => exact wf_plus _ _

theorem toList_plus_wf (a b : OSet) (ha : WF a) (hb : WF b) :
    (a + b).toList = a.toList ++ b.toList.filter (fun y => !a.mem y) := by
  rw [toList_plus, List.foldl_append, foldl_kins_nil, firstOcc_of_nodup _ ha, foldl_kins, firstOcc_of_nodup _ hb]
  rfl

theorem toList_remove_add (s s' : OSet) (e : Elem) (hr : s.remove e = some s') :
    (s'.add e).toList = s.toList.filter (fun y => y.cls ≠ e.cls) ++ [e] := by
  rw [toList_add, toList_remove s s' e hr, kins]
  have : hasCls e.cls (s.toList.filter (fun y => y.cls ≠ e.cls)) = false := by
    rw [hasCls_false_iff]
    simp only [List.mem_map, List.mem_filter]
    rintro ⟨y, ⟨_, hy⟩, hc⟩
    simp [hc] at hy
  rw [this]
  rfl

theorem toList_add_present (s : OSet) (e : Elem) (h : s.mem e = true) : (s.add e).toList = s.toList := by
  rw [toList_add, kins]
  simp only [mem] at h
  simp [h]

theorem toList_add_absent (s : OSet) (e : Elem) (h : s.mem e = false) : (s.add e).toList = s.toList ++ [e] := by
  rw [toList_add, kins]
  simp only [mem] at h
  simp [h]

end Lt.OSet
