import LabtechModel.Proofs.IntrDeps
/-!
# M10: "each task is submitted / executed at most once, and only planned tasks" after EVERY primitive

`OI P s` (`P` = the plan) holds in every state of every interrupted run:
* the `submit` events of the trace carry pairwise distinct tasks, all of them planned and none of
  them still in the work list (`subNd`, `subPlan`, `subP`);
* the worker records (`exec` / `load`) carry pairwise distinct tasks (`ranNd`), every one of a
  submitted task (`ranSub`), as is every `start` event (`startSub`);
* every queued / running / popped submission belongs to a submitted task; the running map holds
  every task once and none that already has a worker record (`runNd`, `runNotRan`).
`OS s` is the extra part that holds between two bookkeeping blocks of the MAIN stream only (it is
false between `regRunning` and `unregPending`, where a future is both pending and running): queued
submissions are pairwise distinct, not running, without worker record. So the blocks of the main stream
are not passed from ANY state with `OI` (what `Walk` asks for) but from one with `OS` as well, which they
restore at their end (`Blk`, a `BlockSeq`). The handlers launch nothing (`members_handler`, `members_second`), so there
`OI` needs no side condition at all, whatever the state they are entered in.
-/
namespace Lt

variable {cfg : Config} {p : Problem}

theorem submittedOf_append (a b : List Ev) : submittedOf (a ++ b) = submittedOf a ++ submittedOf b := by
  simp [submittedOf, List.filterMap_append]

structure OI (P : TS) (s : IS) : Prop where
  subNd : (submittedOf s.rs.trace).Nodup
  subP : ∀ t ∈ submittedOf s.rs.trace, t ∉ s.rs.ts.pending
  pendP : ∀ t ∈ s.rs.ts.pending, t ∈ P.pending
  subPlan : ∀ t ∈ submittedOf s.rs.trace, t ∈ P.pending
  qSub : ∀ j ∈ s.rs.queued, j.tid ∈ submittedOf s.rs.trace
  rSub : ∀ t ∈ s.rs.running.map Job.tid, t ∈ submittedOf s.rs.trace
  cSub : ∀ j, s.cur = some j → j.tid ∈ submittedOf s.rs.trace
  ranSub : ∀ t ∈ ranOf s.rs.trace, t ∈ submittedOf s.rs.trace
  startSub : ∀ t, Ev.start t ∈ s.rs.trace → t ∈ submittedOf s.rs.trace
  ranNd : (ranOf s.rs.trace).Nodup
  runNd : (s.rs.running.map Job.tid).Nodup
  runNotRan : ∀ t ∈ s.rs.running.map Job.tid, t ∉ ranOf s.rs.trace

/-- the trace grows by events that are no `submit`; the worker records among them are new, distinct,
    of submitted tasks, and of no task that is still in the running map -/
theorem OI.ext {P : TS} {s s' : IS} (h : OI P s) (l : List Ev)
    (htr : s'.rs.trace = s.rs.trace ++ l) (hsub : submittedOf l = [])
    (hstart : ∀ t, Ev.start t ∈ l → t ∈ submittedOf s.rs.trace)
    (hranNd : (ranOf l).Nodup)
    (hran : ∀ t ∈ ranOf l, t ∈ submittedOf s.rs.trace ∧ t ∉ ranOf s.rs.trace)
    (hpend : ∀ t ∈ s'.rs.ts.pending, t ∈ s.rs.ts.pending)
    (hq : ∀ j ∈ s'.rs.queued, j.tid ∈ submittedOf s.rs.trace)
    (hrNd : (s'.rs.running.map Job.tid).Nodup)
    (hr : ∀ t ∈ s'.rs.running.map Job.tid,
      t ∈ submittedOf s.rs.trace ∧ t ∉ ranOf s.rs.trace ∧ t ∉ ranOf l)
    (hc : ∀ j, s'.cur = some j → j.tid ∈ submittedOf s.rs.trace) : OI P s' := by
  have e1 : submittedOf s'.rs.trace = submittedOf s.rs.trace := by
    rw [htr, submittedOf_append, hsub, List.append_nil]
  have e2 : ranOf s'.rs.trace = ranOf s.rs.trace ++ ranOf l := by rw [htr, ranOf_append]
  exact {
    subNd := by rw [e1]; exact h.subNd
    subP := by rw [e1]; exact fun t ht hp => h.subP t ht (hpend t hp)
    pendP := fun t ht => h.pendP t (hpend t ht)
    subPlan := by rw [e1]; exact h.subPlan
    qSub := by rw [e1]; exact hq
    rSub := by rw [e1]; exact fun t ht => (hr t ht).1
    cSub := by rw [e1]; exact hc
    ranSub := by
      rw [e1, e2]
      intro t ht
      rcases List.mem_append.mp ht with ht | ht
      · exact h.ranSub t ht
      · exact (hran t ht).1
    startSub := by
      intro t ht
      rw [e1]
      rw [htr, List.mem_append] at ht
      rcases ht with ht | ht
      · exact h.startSub t ht
      · exact hstart t ht
    ranNd := by
      rw [e2, List.nodup_append]
      exact ⟨h.ranNd, hranNd, fun a ha b hb hab => (hran b hb).2 (hab ▸ ha)⟩
    runNd := hrNd
    runNotRan := by
      rw [e2]
      intro t ht hr'
      rcases List.mem_append.mp hr' with h1 | h1
      · exact (hr t ht).2.1 h1
      · exact (hr t ht).2.2 h1 }

/-- no worker record either, and the running map only shrinks -/
theorem OI.ext_sub {P : TS} {s s' : IS} (h : OI P s) (l : List Ev)
    (htr : s'.rs.trace = s.rs.trace ++ l) (hsub : submittedOf l = []) (hran : ranOf l = [])
    (hstart : ∀ t, Ev.start t ∈ l → t ∈ submittedOf s.rs.trace)
    (hpend : ∀ t ∈ s'.rs.ts.pending, t ∈ s.rs.ts.pending)
    (hq : ∀ j ∈ s'.rs.queued, j ∈ s.rs.queued)
    (hr : (s'.rs.running.map Job.tid).Sublist (s.rs.running.map Job.tid))
    (hc : ∀ j, s'.cur = some j → j.tid ∈ submittedOf s.rs.trace) : OI P s' :=
  h.ext l htr hsub hstart (by rw [hran]; exact List.nodup_nil) (by rw [hran]; exact fun _ ht => nomatch ht)
    hpend (fun j hj => h.qSub j (hq j hj)) (hr.nodup h.runNd)
    (fun t ht => ⟨h.rSub t (hr.subset ht), h.runNotRan t (hr.subset ht), by rw [hran]; exact fun ht => nomatch ht⟩) hc

/-- nothing that `OI` reads has changed -/
theorem OI.same {P : TS} {s s' : IS} (h : OI P s) (htr : s'.rs.trace = s.rs.trace)
    (hpend : ∀ t ∈ s'.rs.ts.pending, t ∈ s.rs.ts.pending) (hq : ∀ j ∈ s'.rs.queued, j ∈ s.rs.queued)
    (hr : (s'.rs.running.map Job.tid).Sublist (s.rs.running.map Job.tid)) (hc : s'.cur = s.cur) : OI P s' :=
  h.ext_sub [] (by rw [htr, List.append_nil]) rfl rfl (fun t ht => nomatch ht) hpend hq hr
    (fun j hj => h.cSub j (by rw [← hc]; exact hj))

def OG (P : TS) (s : IS) : Prim → Prop
  | .enqueue t | .serialAppend t =>
    t ∉ submittedOf s.rs.trace ∧ t ∉ s.rs.ts.pending ∧ t ∈ P.pending
  | .procStart t => t ∈ submittedOf s.rs.trace
  | .regRunning t => t ∉ s.rs.running.map Job.tid ∧ t ∉ ranOf s.rs.trace
  | .serialRun => ∀ j, s.cur = some j → j.tid ∉ ranOf s.rs.trace ∧ j.tid ∉ s.rs.running.map Job.tid
  | _ => True

/-- primitives without a side condition -/
def Prim.ofree : Prim → Bool
  | .enqueue _ | .serialAppend _ | .procStart _ | .regRunning _ | .serialRun => false
  | _ => true

theorem OG_of_free {P : TS} {s : IS} {q : Prim} (h : q.ofree = true) : OG P s q := by
  cases q <;> first | exact True.intro | cases h

theorem ofree_of_nolaunch {q : Prim} (h : q.launches = false) : q.ofree = true := by
  cases q <;> first | rfl | cases h

theorem finOf_stayOf_perm (c : Choice) (l : List Job) : (finOf c l ++ stayOf c l).Perm l :=
  enum_partition_perm l c.finish


theorem plain_runEvents_start (ts : TS) (j : Job) : submittedOf ([Ev.start j.tid] ++ runEvents p ts j) = [] := by
  apply filterMap_none
  intro e he
  rcases List.mem_append.mp he with he | he
  · rw [List.mem_singleton.mp he]; rfl
  · rcases runEvents_cases p ts j e he with rfl | rfl <;> rfl

theorem submittedOf_jobEvents (ts : TS) (js : List Job) :
    submittedOf ((js.map (jobEvents p ts)).flatten) = [] := by
  apply filterMap_none
  intro e he
  obtain ⟨es, hes, hmem⟩ := List.mem_flatten.mp he
  obtain ⟨j, _, rfl⟩ := List.mem_map.mp hes
  rcases jobEvents_cases p ts j e hmem with rfl | rfl <;> rfl

theorem start_not_in_jobEvents (ts : TS) (js : List Job) (t : Tid) :
    Ev.start t ∉ (js.map (jobEvents p ts)).flatten := by
  intro he
  obtain ⟨es, hes, hmem⟩ := List.mem_flatten.mp he
  obtain ⟨j, _, rfl⟩ := List.mem_map.mp hes
  rcases jobEvents_cases p ts j _ hmem with h | h <;> cases h

/-- `executor.submit(task)` for a task that has just left the work list -/
theorem OI_enqueue {P : TS} (t : Tid) (s : IS) (h : OI P s)
    (hg : t ∉ submittedOf s.rs.trace ∧ t ∉ s.rs.ts.pending ∧ t ∈ P.pending) :
    OI P (stepPrim cfg p (Prim.enqueue t) s) := by
  obtain ⟨g1, g2, g3⟩ := hg
  simp only [stepPrim]
  have e1 : ∀ uc, submittedOf (s.rs.trace ++ [Ev.submit t uc]) = submittedOf s.rs.trace ++ [t] := by
    intro uc; rw [submittedOf_append]; rfl
  have e2 : ∀ uc, ranOf (s.rs.trace ++ [Ev.submit t uc]) = ranOf s.rs.trace := by
    intro uc; rw [ranOf_append]; simp [ranOf, evRan]
  exact {
    subNd := by
      rw [e1, List.nodup_append]
      exact ⟨h.subNd, by simp, fun a ha b hb => by
        simp only [List.mem_singleton] at hb; subst hb; exact fun hab => g1 (hab ▸ ha)⟩
    subP := by
      intro x hx
      rw [e1, List.mem_append, List.mem_singleton] at hx
      rcases hx with hx | rfl
      · exact h.subP x hx
      · exact g2
    pendP := h.pendP
    subPlan := by
      intro x hx
      rw [e1, List.mem_append, List.mem_singleton] at hx
      rcases hx with hx | rfl
      · exact h.subPlan x hx
      · exact g3
    qSub := by
      intro j hj
      rw [e1]
      simp only [List.mem_append, List.mem_singleton] at hj ⊢
      rcases hj with hj | rfl
      · exact Or.inl (h.qSub j hj)
      · exact Or.inr rfl
    rSub := fun x hx => by rw [e1]; exact List.mem_append_left _ (h.rSub x hx)
    cSub := fun j hj => by rw [e1]; exact List.mem_append_left _ (h.cSub j hj)
    ranSub := fun x hx => by rw [e1]; rw [e2] at hx; exact List.mem_append_left _ (h.ranSub x hx)
    startSub := by
      intro x hx
      rw [e1]
      simp only [List.mem_append, List.mem_singleton] at hx
      rcases hx with hx | hx
      · exact List.mem_append_left _ (h.startSub x hx)
      · cases hx
    ranNd := by rw [e2]; exact h.ranNd
    runNd := h.runNd
    runNotRan := by rw [e2]; exact h.runNotRan }

theorem OI_step {P : TS} (q : Prim) (s : IS) (h : OI P s) (hg : OG P s q) :
    OI P (applyPrim cfg p q s) := by
  by_cases hd : q.touchesWork = false ∧ q.isStart = false
  · obtain ⟨e1, e2, e3, e4⟩ := applyPrim_work q s hd.1
    exact h.same e1 (by rw [applyPrim_pending q s hd.2]; exact fun _ ht => ht) (fun _ hj => e3.subset hj)
      (e4.map _) e2
  by_cases hrun : ¬ s.rs.status = .running
  · rw [applyPrim_stopped q s hrun]; exact h
  rw [applyPrim_running q s (Decidable.not_not.mp hrun)]
  cases q <;> simp [Prim.touchesWork, Prim.isStart] at hd
  case startTask t =>
    simp only [stepPrim]
    cases hs : startTask s.rs.ts t with
    | none => exact h.same rfl (fun _ ht => ht) (fun _ hj => hj) (List.Sublist.refl _) rfl
    | some ts' =>
      obtain ⟨_, hts⟩ := startTask_some _ _ _ hs
      subst hts
      exact h.same rfl (fun _ ht => (List.mem_filter.mp ht).1) (fun _ hj => hj) (List.Sublist.refl _) rfl
  case enqueue t => exact OI_enqueue t s h hg
  case serialAppend t =>
    rw [serialAppend_eq]
    exact (OI_enqueue t s h hg).same rfl (fun _ ht => ht) (fun _ hj => hj) (List.Sublist.refl _) rfl
  case procStart t =>
    simp only [stepPrim]
    refine h.ext_sub [Ev.start t] rfl rfl rfl ?_ (fun _ ht => ht) (fun _ hj => hj)
      (List.Sublist.refl _) h.cSub
    intro x hx
    simp only [List.mem_singleton, Ev.start.injEq] at hx
    subst hx; exact hg
  case regRunning t =>
    simp only [stepPrim]
    cases hf : s.rs.queued.find? (hasTid t) with
    | none => exact h
    | some j =>
      have hjt : j.tid = t := by
        have := List.find?_some hf
        simpa [hasTid] using this
      have hjq := List.mem_of_find?_eq_some hf
      have hnew : ∀ x ∈ (s.rs.running ++ [forkSnap cfg s.rs.results j]).map Job.tid,
          x ∈ s.rs.running.map Job.tid ∨ x = t := by
        intro x hx
        simpa only [List.map_append, List.map_cons, List.map_nil, List.mem_append, List.mem_singleton,
          forkSnap_tid, hjt] using hx
      refine h.ext [] (by simp) rfl (fun x hx => nomatch hx) List.nodup_nil (fun x hx => nomatch hx)
        (fun _ ht => ht) h.qSub ?_ ?_ h.cSub
      · show ((s.rs.running ++ [forkSnap cfg s.rs.results j]).map Job.tid).Nodup
        rw [List.map_append, List.nodup_append]
        refine ⟨h.runNd, by simp, ?_⟩
        intro a ha b hb
        simp only [List.map_cons, List.map_nil, List.mem_singleton, forkSnap_tid] at hb
        subst hb
        exact fun hab => hg.1 (hjt ▸ hab ▸ ha)
      · intro x hx
        rcases hnew x hx with hx | rfl
        · exact ⟨h.rSub x hx, h.runNotRan x hx, fun hr => nomatch hr⟩
        · exact ⟨hjt ▸ h.qSub j hjq, hg.2, fun hr => nomatch hr⟩
  case popFuture t o =>
    simp only [stepPrim]
    split
    · cases o with
      | none => exact h.same rfl (fun _ ht => ht) (fun _ hj => hj) (List.Sublist.refl _) rfl
      | some o =>
        exact h.ext_sub [Ev.yield t o] rfl rfl rfl
          (fun x hx => by simp at hx) (fun _ ht => ht) (fun _ hj => hj) (List.Sublist.refl _) h.cSub
    · exact h.same rfl (fun _ ht => ht) (fun _ hj => hj) (List.Sublist.refl _) rfl
  case removeDone rem =>
    simp only [stepPrim]
    exact h.ext_sub [Ev.remove rem (s.rs.results.map (·.1))] rfl rfl rfl
      (fun x hx => by simp at hx) (fun _ ht => ht) (fun _ hj => hj) (List.Sublist.refl _) h.cSub
  case popDeque =>
    simp only [stepPrim]
    cases hq : s.rs.queued with
    | nil =>
      exact h.ext_sub [Ev.waitEnter ([].map Job.tid) []] rfl rfl rfl
        (fun x hx => by simp at hx) (fun _ ht => ht) (fun j hj => by simp at hj) (List.Sublist.refl _) h.cSub
    | cons j rest =>
      refine h.ext_sub [Ev.waitEnter ((j :: rest).map Job.tid) []] rfl rfl rfl
        (fun x hx => by simp at hx) (fun _ ht => ht)
        (fun j' hj' => by rw [hq]; exact List.mem_cons_of_mem _ hj') (List.Sublist.refl _) ?_
      intro j' hj'
      simp only [Option.some.injEq] at hj'
      subst hj'
      exact h.qSub j (by rw [hq]; exact List.mem_cons_self)
  case consumeResults c =>
    simp only [stepPrim]
    -- the records are of the workers that report, which leave the running map
    have hss := (stayOf_sublist c s.rs.running).map Job.tid
    have hndAll : ((finOf c s.rs.running ++ stayOf c s.rs.running).map Job.tid).Nodup :=
      ((finOf_stayOf_perm c s.rs.running).map Job.tid).nodup_iff.mpr h.runNd
    rw [List.map_append, List.nodup_append] at hndAll
    have eR : ranOf ([Ev.waitEnter (s.rs.queued.map Job.tid) (s.rs.running.map Job.tid)] ++
        ((finOf c s.rs.running).map (jobEvents p s.rs.ts)).flatten) =
        ranOf ((finOf c s.rs.running).map (jobEvents p s.rs.ts)).flatten := by rw [ranOf_append]; rfl
    have hsl := ranOf_flatten_sublist p s.rs.ts (finOf c s.rs.running)
    have hfin : ∀ x ∈ ranOf ((finOf c s.rs.running).map (jobEvents p s.rs.ts)).flatten,
        x ∈ s.rs.running.map Job.tid :=
      fun x hx => ((finOf_sublist c s.rs.running).map Job.tid).subset (hsl.subset hx)
    refine h.ext _ (List.append_assoc _ _ _) (by rw [submittedOf_append, submittedOf_jobEvents]; rfl) ?_
      (by rw [eR]; exact hsl.nodup hndAll.1) ?_ (fun _ ht => ht) h.qSub (hss.nodup h.runNd) ?_ h.cSub
    · intro x hx
      rcases List.mem_append.mp hx with hx | hx
      · cases List.mem_singleton.mp hx
      · exact absurd hx (start_not_in_jobEvents _ _ _)
    · rw [eR]
      exact fun x hx => ⟨h.rSub x (hfin x hx), h.runNotRan x (hfin x hx)⟩
    · rw [eR]
      exact fun x hx => ⟨h.rSub x (hss.subset hx), h.runNotRan x (hss.subset hx),
        fun hr => hndAll.2.2 x (hsl.subset hr) x hx rfl⟩
  case serialRun =>
    simp only [stepPrim]
    cases hc : s.cur with
    | none => exact h
    | some j =>
      obtain ⟨g1, g2⟩ := hg j hc
      have hjs := h.cSub j hc
      have eR : ranOf ([Ev.start j.tid] ++ runEvents p s.rs.ts j) = [j.tid] := by
        rw [ranOf_append, ranOf_runEvents]; rfl
      refine h.ext _ (List.append_assoc _ _ _) (plain_runEvents_start _ _) ?_ (by rw [eR]; simp) ?_
        (fun _ ht => ht) h.qSub h.runNd ?_ (fun j' hj' => h.cSub j' (by rw [hc]; exact hj'))
      · intro x hx
        rcases List.mem_append.mp hx with hx | hx
        · cases List.mem_singleton.mp hx; exact hjs
        · rcases runEvents_cases p _ _ _ hx with h' | h' <;> cases h'
      · rw [eR]
        intro x hx
        rw [List.mem_singleton.mp hx]
        exact ⟨hjs, g1⟩
      · rw [eR]
        intro x hx
        exact ⟨h.rSub x hx, h.runNotRan x hx, fun hr => g2 (List.mem_singleton.mp hr ▸ hx)⟩

/-- holds between two bookkeeping blocks of the main stream, not inside `_start_processes`' loop body -/
structure OS (s : IS) : Prop where
  qNd : (s.rs.queued.map Job.tid).Nodup
  qNotRun : ∀ t ∈ s.rs.queued.map Job.tid, t ∉ s.rs.running.map Job.tid
  qNotRan : ∀ t ∈ s.rs.queued.map Job.tid, t ∉ ranOf s.rs.trace

theorem OS.shrink {s s' : IS} (h : OS s)
    (hq : (s'.rs.queued.map Job.tid).Sublist (s.rs.queued.map Job.tid))
    (hr : ∀ t ∈ s'.rs.running.map Job.tid, t ∈ s.rs.running.map Job.tid)
    (hran : ∀ t ∈ ranOf s'.rs.trace, t ∈ ranOf s.rs.trace ∨ t ∈ s.rs.running.map Job.tid) : OS s' where
  qNd := hq.nodup h.qNd
  qNotRun := fun t ht hr' => h.qNotRun t (hq.subset ht) (hr t hr')
  qNotRan := by
    intro t ht hr'
    rcases hran t hr' with h1 | h1
    · exact h.qNotRan t (hq.subset ht) h1
    · exact h.qNotRun t (hq.subset ht) h1

/-- primitives that keep `OS` -/
def Prim.ssafe : Prim → Bool
  | .enqueue _ | .serialAppend _ | .regRunning _ | .serialRun => false
  | _ => true

theorem ssafe_of_ofree {q : Prim} (h : q.ofree = true) : q.ssafe = true := by
  cases q <;> first | rfl | cases h

theorem OS_step (q : Prim) (s : IS) (hq : q.ssafe = true) (h : OS s) : OS (applyPrim cfg p q s) := by
  by_cases hd : q.touchesWork = false
  · obtain ⟨e1, _, e3, e4⟩ := applyPrim_work q s hd
    exact h.shrink (e3.map _) (fun _ ht => (e4.map _).subset ht) (by rw [e1]; exact fun _ ht => Or.inl ht)
  by_cases hrun : ¬ s.rs.status = .running
  · rw [applyPrim_stopped q s hrun]; exact h
  rw [applyPrim_running q s (Decidable.not_not.mp hrun)]
  have hplain : ∀ (e : Ev), evRan e = none → ∀ t ∈ ranOf (s.rs.trace ++ [e]),
      t ∈ ranOf s.rs.trace ∨ t ∈ s.rs.running.map Job.tid := by
    intro e he t ht
    rw [ranOf_append] at ht
    simp only [ranOf, List.filterMap_cons, he, List.filterMap_nil, List.append_nil] at ht
    exact Or.inl ht
  cases q <;> simp [Prim.touchesWork] at hd <;> simp [Prim.ssafe] at hq
  case procStart t =>
    simp only [stepPrim]
    exact h.shrink (List.Sublist.refl _) (fun _ ht => ht) (hplain _ rfl)
  case popFuture t o =>
    simp only [stepPrim]
    split
    · cases o with
      | none => exact h.shrink (List.Sublist.refl _) (fun _ ht => ht) (fun _ ht => Or.inl ht)
      | some o => exact h.shrink (List.Sublist.refl _) (fun _ ht => ht) (hplain _ rfl)
    · exact h.shrink (List.Sublist.refl _) (fun _ ht => ht) (fun _ ht => Or.inl ht)
  case removeDone rem =>
    simp only [stepPrim]
    exact h.shrink (List.Sublist.refl _) (fun _ ht => ht) (hplain _ rfl)
  case popDeque =>
    simp only [stepPrim]
    cases hqq : s.rs.queued with
    | nil => exact h.shrink (by simp) (fun _ ht => ht) (hplain _ rfl)
    | cons j rest =>
      exact h.shrink (by rw [hqq]; simp) (fun _ ht => ht) (hplain _ rfl)
  case consumeResults c =>
    simp only [stepPrim]
    refine h.shrink (List.Sublist.refl _) (fun _ ht => ((stayOf_sublist c _).map _).subset ht) ?_
    intro t ht
    rw [ranOf_append, ranOf_append] at ht
    simp only [List.mem_append] at ht
    rcases ht with (ht | ht) | ht
    · exact Or.inl ht
    · simp [ranOf, evRan] at ht
    · exact Or.inr (((finOf_sublist c _).map _).subset
        ((ranOf_flatten_sublist p s.rs.ts (finOf c s.rs.running)).subset ht))

/-- the invariant of the main stream between two blocks -/
def MI2 (P : TS) (s : IS) : Prop := OI P s ∧ OS s

theorem MI2_step {P : TS} (q : Prim) (s : IS) (hq : q.ofree = true) (h : MI2 P s) :
    MI2 P (applyPrim cfg p q s) :=
  ⟨OI_step q s h.1 (OG_of_free hq), OS_step q s (ssafe_of_ofree hq) h.2⟩

/-- `AlwaysTo cfg p (OI P) (MI2 P)` written out: `OI` after every prefix, `MI2` again at the end -/
def Blk (cfg : Config) (p : Problem) (P : TS) (ps : List Prim) (s : IS) : Prop :=
  Always cfg p (OI P) ps s ∧ MI2 P (runPrims cfg p ps s)

theorem Blk_seq {P : TS} : BlockSeq cfg p (MI2 P) (Blk cfg p P) := AlwaysTo.isSeq (fun _ h => h.1)

theorem Blk.free {P : TS} (ps : List Prim) (s : IS) (hf : ∀ q ∈ ps, q.ofree = true) (h : MI2 P s) :
    Blk cfg p P ps s :=
  AlwaysTo.of_always (fun _ h => h.1) (always_of_step ps s (fun q hq s h => MI2_step q s (hf q hq) h) h)

theorem Blk.stopped {P : TS} (ps : List Prim) (s : IS) (hs : s.rs.status ≠ .running) (h : MI2 P s) :
    Blk cfg p P ps s :=
  AlwaysTo.stopped (fun _ h => h.1) ps hs h

/-- inside the window: `t` is both pending and running -/
structure OSW (t : Tid) (s : IS) : Prop where
  qNd : (s.rs.queued.map Job.tid).Nodup
  qNotRun : ∀ x ∈ s.rs.queued.map Job.tid, x ≠ t → x ∉ s.rs.running.map Job.tid
  qNotRan : ∀ x ∈ s.rs.queued.map Job.tid, x ∉ ranOf s.rs.trace

theorem OSW_regRunning (t : Tid) (s : IS) (h : OS s) : OSW t (applyPrim cfg p (Prim.regRunning t) s) := by
  by_cases hrun : s.rs.status = .running
  · rw [applyPrim_running _ _ hrun]
    simp only [stepPrim]
    cases hf : s.rs.queued.find? (hasTid t) with
    | none => exact ⟨h.qNd, fun x hx _ => h.qNotRun x hx, h.qNotRan⟩
    | some j =>
      have hjt : j.tid = t := by
        have := List.find?_some hf
        simpa [hasTid] using this
      refine ⟨h.qNd, ?_, h.qNotRan⟩
      intro x hx hxt hr
      simp only [List.map_append, List.map_cons, List.map_nil, List.mem_append, List.mem_singleton,
        forkSnap_tid] at hr
      rcases hr with hr | hr
      · exact h.qNotRun x hx hr
      · exact hxt (hr.trans hjt)
  · rw [applyPrim_stopped _ _ hrun]
    exact ⟨h.qNd, fun x hx _ => h.qNotRun x hx, h.qNotRan⟩

theorem OS_unregPending (t : Tid) (s : IS) (hrun : s.rs.status = .running) (h : OSW t s) :
    OS (applyPrim cfg p (Prim.unregPending t) s) := by
  rw [applyPrim_running _ _ hrun]
  simp only [stepPrim]
  have hsl : ((s.rs.queued.eraseP (hasTid t)).map Job.tid).Sublist (s.rs.queued.map Job.tid) :=
    (List.eraseP_sublist).map _
  refine ⟨hsl.nodup h.qNd, ?_, fun x hx => h.qNotRan x (hsl.subset hx)⟩
  intro x hx
  obtain ⟨j, hj, rfl⟩ := List.mem_map.mp hx
  exact h.qNotRun j.tid (hsl.subset hx) (eraseP_tid_ne t _ h.qNd j hj)

theorem Blk_triple {P : TS} (j : Job) (s : IS) (h : MI2 P s) (hj : j ∈ s.rs.queued) :
    Blk cfg p P [Prim.procStart j.tid, Prim.regRunning j.tid, Prim.unregPending j.tid] s ∧
    (∀ j' ∈ s.rs.queued, j'.tid ≠ j.tid →
      j' ∈ (runPrims cfg p [Prim.procStart j.tid, Prim.regRunning j.tid, Prim.unregPending j.tid] s).rs.queued) := by
  by_cases hrun' : ¬ s.rs.status = .running
  · exact ⟨Blk.stopped _ s hrun' h, fun j' hj' _ => by rw [runPrims_stopped _ s hrun']; exact hj'⟩
  have hrun : s.rs.status = .running := Decidable.not_not.mp hrun'
  have hjm : j.tid ∈ s.rs.queued.map Job.tid := List.mem_map.mpr ⟨j, hj, rfl⟩
  -- `process.start()`
  have q1 := applyPrim_queued (cfg := cfg) (p := p) (Prim.procStart j.tid) s rfl
  have r1 := (applyPrim_status (cfg := cfg) (p := p) (Prim.procStart j.tid) s rfl).trans hrun
  have i1 := OI_step (cfg := cfg) (p := p) (Prim.procStart j.tid) s h.1 (h.1.qSub j hj)
  have o1 := OS_step (cfg := cfg) (p := p) (Prim.procStart j.tid) s rfl h.2
  -- the running map is written
  rw [← q1] at hjm
  have i2 := OI_step (cfg := cfg) (p := p) (Prim.regRunning j.tid) _ i1 ⟨o1.qNotRun _ hjm, o1.qNotRan _ hjm⟩
  have o2 := OSW_regRunning (cfg := cfg) (p := p) j.tid _ o1
  have q2 := (applyPrim_queued (cfg := cfg) (p := p) (Prim.regRunning j.tid) _ rfl).trans q1
  have r2 := (applyPrim_status (cfg := cfg) (p := p) (Prim.regRunning j.tid) _ rfl).trans r1
  -- the pending entry is deleted
  have i3 := OI_step (cfg := cfg) (p := p) (Prim.unregPending j.tid) _ i2 trivial
  have o3 := OS_unregPending (cfg := cfg) (p := p) j.tid _ r2 o2
  refine ⟨⟨⟨h.1, i1, i2, i3⟩, ⟨i3, o3⟩⟩, ?_⟩
  intro j' hj' hne
  simp only [runPrims_cons, runPrims_nil]
  rw [applyPrim_running _ _ r2]
  simp only [stepPrim]
  rw [q2]
  exact (List.mem_eraseP_of_neg (by simpa [hasTid] using hne)).mpr hj'

theorem Blk_startPrims {P : TS} : ∀ (go : List Job) (s : IS), MI2 P s → (∀ j ∈ go, j ∈ s.rs.queued) →
    (go.map Job.tid).Nodup → Blk cfg p P (startPrims go) s := by
  intro go
  induction go with
  | nil => intro s h _ _; exact ⟨h.1, h⟩
  | cons j go ih =>
    intro s h hmem hnd
    rw [startPrims_cons]
    rw [List.map_cons, List.nodup_cons] at hnd
    obtain ⟨b, hkeep⟩ := Blk_triple j s h (hmem j List.mem_cons_self)
    refine Blk_seq.seq b (ih _ b.2 ?_ hnd.2)
    intro j' hj'
    apply hkeep j' (hmem j' (List.mem_cons_of_mem _ hj'))
    intro hjt
    exact hnd.1 (List.mem_map.mpr ⟨j', hj', hjt⟩)

theorem Blk_startProcesses {P : TS} (s : IS) (h : MI2 P s) : Blk cfg p P (startProcessesPrims cfg s) s :=
  Blk_startPrims _ s h (fun _ hj => (takeN_fst_sublist _ _).subset hj)
    (((takeN_fst_sublist _ _).map Job.tid).nodup h.2.qNd)

theorem Blk.cons {P : TS} {q : Prim} {ps : List Prim} {s : IS} (h : OI P s)
    (hb : Blk cfg p P ps (applyPrim cfg p q s)) : Blk cfg p P (q :: ps) s :=
  ⟨⟨h, hb.1⟩, hb.2⟩

theorem Blk.nil {P : TS} {s : IS} (h : MI2 P s) : Blk cfg p P [] s := ⟨h.1, h⟩

theorem OS_enqueue {P : TS} (t : Tid) (s : IS) (h : MI2 P s) (ht : t ∉ submittedOf s.rs.trace) :
    OS (applyPrim cfg p (Prim.enqueue t) s) ∧ OS (applyPrim cfg p (Prim.serialAppend t) s) := by
  by_cases hrun : s.rs.status = .running
  · rw [applyPrim_running _ _ hrun, applyPrim_running _ _ hrun, serialAppend_eq]
    -- the new entry is of a task that was not submitted before: not queued, not running, no record
    have hmem : ∀ x ∈ (s.rs.queued ++ [mkJob cfg p s.rs t]).map Job.tid, x ∈ s.rs.queued.map Job.tid ∨ x = t := by
      intro x hx
      simpa only [List.map_append, List.map_cons, List.map_nil, List.mem_append, List.mem_singleton,
        show (mkJob cfg p s.rs t).tid = t from rfl] using hx
    have os : OS (stepPrim cfg p (Prim.enqueue t) s) := by
      simp only [stepPrim]
      refine ⟨?_, ?_, ?_⟩
      · rw [List.map_append, List.nodup_append]
        refine ⟨h.2.qNd, by simp, ?_⟩
        intro a ha b hb hab
        rw [List.mem_singleton.mp hb] at hab
        obtain ⟨j', hj', rfl⟩ := List.mem_map.mp ha
        have hab : j'.tid = t := hab
        exact ht (hab ▸ h.1.qSub j' hj')
      · intro x hx
        rcases hmem x hx with hx | rfl
        · exact h.2.qNotRun x hx
        · exact fun hr => ht (h.1.rSub _ hr)
      · intro x hx hr
        rw [ranOf_append, show ranOf [Ev.submit t (mkJob cfg p s.rs t).useCache] = [] from rfl,
          List.append_nil] at hr
        rcases hmem x hx with hx | rfl
        · exact h.2.qNotRan x hx hr
        · exact ht (h.1.ranSub _ hr)
    exact ⟨os, os.shrink (List.Sublist.refl _) (fun _ hx => hx) (fun _ hx => Or.inl hx)⟩
  · rw [applyPrim_stopped _ _ hrun, applyPrim_stopped _ _ hrun]; exact ⟨h.2, h.2⟩

theorem Blk_submitOne {P : TS} (s : IS) (t : Tid) (h : MI2 P s) :
    Blk cfg p P (submitOnePrims cfg p s t) s := by
  -- `start_task(t)`, then the submission is recorded: by either runner
  have head : Blk cfg p P [Prim.startTask t, Prim.enqueue t] s ∧
      Blk cfg p P [Prim.startTask t, Prim.serialAppend t] s := by
    by_cases hrun : ¬ s.rs.status = .running
    · exact ⟨Blk.stopped _ s hrun h, Blk.stopped _ s hrun h⟩
    have m1 : MI2 P (applyPrim cfg p (Prim.startTask t) s) := MI2_step _ s rfl h
    by_cases hr1 : ¬ (applyPrim cfg p (Prim.startTask t) s).rs.status = .running
    · exact ⟨Blk.cons h.1 (Blk.stopped _ _ hr1 m1), Blk.cons h.1 (Blk.stopped _ _ hr1 m1)⟩
    obtain ⟨htp, hpend, _, htr⟩ := startTask_facts s t (Decidable.not_not.mp hr1)
    have g : t ∉ submittedOf (applyPrim cfg p (Prim.startTask t) s).rs.trace ∧
        t ∉ (applyPrim cfg p (Prim.startTask t) s).rs.ts.pending ∧ t ∈ P.pending :=
      ⟨by rw [htr]; exact fun hsub => h.1.subP t hsub htp, hpend, h.1.pendP t htp⟩
    have os := OS_enqueue (cfg := cfg) (p := p) t _ m1 g.1
    exact ⟨Blk.cons h.1 (Blk.cons m1.1 (Blk.nil ⟨OI_step _ _ m1.1 g, os.1⟩)),
      Blk.cons h.1 (Blk.cons m1.1 (Blk.nil ⟨OI_step _ _ m1.1 g, os.2⟩))⟩
  simp only [submitOnePrims]
  split
  · exact head.2
  · have ab := Blk_seq.seq head.1 (Blk_startProcesses _ head.1.2)
    exact Blk_seq.seq ab (Blk.free _ _ (fun q hq => by rw [List.mem_singleton.mp hq]; rfl) ab.2)

theorem OS_serialRun (s : IS) (h : OS s)
    (hc : ∀ j, s.cur = some j → j.tid ∉ s.rs.queued.map Job.tid) :
    OS (applyPrim cfg p Prim.serialRun s) := by
  by_cases hrun : s.rs.status = .running
  · rw [applyPrim_running _ _ hrun]
    simp only [stepPrim]
    cases hcur : s.cur with
    | none => exact h
    | some j =>
      refine ⟨h.qNd, h.qNotRun, ?_⟩
      intro x hx hr
      have e2 : ranOf (s.rs.trace ++ [Ev.start j.tid] ++ runEvents p s.rs.ts j) = ranOf s.rs.trace ++ [j.tid] := by
        rw [ranOf_append, ranOf_append, ranOf_runEvents]; simp [ranOf, evRan]
      rw [e2] at hr
      simp only [List.mem_append, List.mem_singleton] at hr
      rcases hr with hr | rfl
      · exact h.qNotRan x hx hr
      · exact hc j hcur hx
  · rw [applyPrim_stopped _ _ hrun]; exact h

theorem popDeque_facts (s : IS) (j : Job) (rest : List Job) (hrun : s.rs.status = .running)
    (hq : s.rs.queued = j :: rest) :
    (applyPrim cfg p Prim.popDeque s).cur = some { j with snap := some s.rs.results } ∧
    (applyPrim cfg p Prim.popDeque s).rs.queued = rest ∧
    ranOf (applyPrim cfg p Prim.popDeque s).rs.trace = ranOf s.rs.trace ∧
    (applyPrim cfg p Prim.popDeque s).rs.running = s.rs.running := by
  rw [applyPrim_running _ _ hrun]
  simp only [stepPrim, hq, true_and, and_true]
  rw [ranOf_append]; simp [ranOf, evRan]

/-- the serial runner's `popleft` .. `save`: the submission popped is of a task that is queued once, not
    running and without a worker record -/
theorem Blk_serialHead {P : TS} (s : IS) (j : Job) (rest : List Job) (hq : s.rs.queued = j :: rest)
    (h : MI2 P s) :
    Blk cfg p P [Prim.popDeque, Prim.serialRun, Prim.serialSaveBegin, Prim.serialSaveEnd] s := by
  by_cases hrun' : ¬ s.rs.status = .running
  · exact Blk.stopped _ s hrun' h
  obtain ⟨f1, f2, f3, f4⟩ := popDeque_facts s j rest (Decidable.not_not.mp hrun') hq
  have m1 : MI2 P (applyPrim cfg p Prim.popDeque s) := MI2_step _ s rfl h
  have hjm : j.tid ∈ s.rs.queued.map Job.tid := by rw [hq]; exact List.mem_cons_self
  have hnd := h.2.qNd
  rw [hq, List.map_cons, List.nodup_cons] at hnd
  have i2 : OI P (applyPrim cfg p Prim.serialRun (applyPrim cfg p Prim.popDeque s)) := by
    apply OI_step _ _ m1.1
    intro j' hj'
    cases f1.symm.trans hj'
    rw [f3, f4]
    exact ⟨h.2.qNotRan _ hjm, h.2.qNotRun _ hjm⟩
  have o2 : OS (applyPrim cfg p Prim.serialRun (applyPrim cfg p Prim.popDeque s)) := by
    apply OS_serialRun _ m1.2
    intro j' hj'
    cases f1.symm.trans hj'
    rw [f2]
    exact hnd.1
  exact Blk.cons h.1 (Blk.cons m1.1 (Blk.free _ _ (by simp [Prim.ofree]) ⟨i2, o2⟩))

theorem Blk_wait {P : TS} (req : List Tid) : ∀ (c : Choice) (s : IS), MI2 P s →
    Blk cfg p P (waitPrims cfg p req c s) s :=
  have free : ∀ ps, (∀ q ∈ ps, q.ofree = true) → ∀ s, MI2 P s → Blk cfg p P ps s :=
    fun ps hf s h => Blk.free ps s hf h
  have popYield := fun t o (s : IS) => free (Prim.popFuture t (some o) :: yieldPrims cfg req s.rs.ts t o) (fun q hq => by
    rcases List.mem_cons.mp hq with rfl | hq
    · rfl
    · exact members_yield (P := fun q => q.ofree = true)
        ⟨fun _ h _ => ofree_of_nolaunch h, fun _ _ => rfl⟩ req _ _ _ q hq) s
  Blk_seq.wait (fun _ => free _ (by simp [Prim.ofree])) (fun _ => Blk_serialHead) (fun _ => popYield)
    (fun _ c s => free _ (forall_consume_dead rfl (fun _ => rfl)) s) (fun _ => Blk_startProcesses)
    (fun _ => Blk_seq.done (fun t => free _ (by simp [Prim.ofree])) popYield)

theorem Blk_main {P : TS} (req : List Tid) : ∀ (sched : List Choice) (s : IS), MI2 P s →
    Blk cfg p P (mainStream cfg p req sched s) s :=
  Blk_seq.main (Blk_seq.iteration (fun s h _ => Blk_seq.submit Blk_submitOne _ s h) (fun c s h _ => Blk_wait req c s h))

/-- nothing is launched in the handlers: no side condition -/
theorem OI_step_nolaunch {P : TS} (q : Prim) (hq : q.launches = false) (s : IS) (h : OI P s) :
    OI P (applyPrim cfg p q s) :=
  OI_step q s h (OG_of_free (ofree_of_nolaunch hq))

/-- the first `KeyboardInterrupt` handler, entered in ANY state with `OI` -/
theorem always_OI_handler {P : TS} (req : List Tid) (ds : List Choice) (s : IS) (h : OI P s) :
    Always cfg p (OI P) (handlerPrims cfg p req ds s) s :=
  always_handler_nolaunch OI_step_nolaunch req ds s h

/-- the second handler, entered in ANY state with `OI` -/
theorem always_OI_second {P : TS} (req : List Tid) (s : IS) (h : OI P s) :
    Always cfg p (OI P) (secondPrims cfg p req s) s :=
  always_second_nolaunch OI_step_nolaunch req s h

theorem MI2_init (store : Store) (fuel : Nat) : MI2 (plan cfg p store fuel) (initIS cfg p store fuel) := by
  refine ⟨?_, ⟨List.nodup_nil, (fun _ ht => nomatch ht), (fun _ ht => nomatch ht)⟩⟩
  exact {
    subNd := List.nodup_nil
    subP := fun _ ht => nomatch ht
    pendP := fun t ht => ht
    subPlan := fun _ ht => nomatch ht
    qSub := fun _ hj => nomatch hj
    rSub := fun _ ht => nomatch ht
    cSub := fun _ hj => nomatch hj
    ranSub := fun _ ht => nomatch ht
    startSub := fun _ ht => nomatch ht
    ranNd := List.nodup_nil
    runNd := List.nodup_nil
    runNotRan := fun _ ht => nomatch ht }

theorem stateAt_OI (store : Store) (fuel : Nat) (sched : List Choice) (k : Nat) :
    OI (plan cfg p store fuel) (stateAt cfg p store fuel sched k) :=
  (Blk_main (reqTids p) sched _ (MI2_init store fuel)).1.prefix k

theorem handlerStateAt_OI (store : Store) (fuel : Nat) (sched : List Choice) (k : Nat) (ds : List Choice) (m : Nat) :
    OI (plan cfg p store fuel) (handlerStateAt cfg p store fuel sched k ds m) :=
  (always_OI_handler (reqTids p) ds _ (stateAt_OI store fuel sched k)).prefix m

theorem secondStateAt_OI (store : Store) (fuel : Nat) (sched : List Choice) (k : Nat) (ds : List Choice)
    (m m2 : Nat) : OI (plan cfg p store fuel) (secondStateAt cfg p store fuel sched k ds m m2) :=
  (always_OI_second (reqTids p) _ (handlerStateAt_OI store fuel sched k ds m)).prefix m2

theorem instant_OI {store : Store} {fuel : Nat} {s : IS} (hs : Instant cfg p store fuel s) :
    OI (plan cfg p store fuel) s := by
  cases hs with
  | main sched k => exact stateAt_OI store fuel sched k
  | handler sched k ds m => exact handlerStateAt_OI store fuel sched k ds m
  | second sched k ds m m2 => exact secondStateAt_OI store fuel sched k ds m m2

end Lt
