import LabtechModel.Proofs.PathTouch
/-!
What C18's theorems about the storage root rest on.

* A link-free root: a stored root that is a normal path none of whose prefixes is a symlink resolves to
  itself without meeting a loop (`noLoop_of_linkFree`), and a system call on such a path acts on that very
  node (`at_linkfree_path`).
* Real locations, no hypothesis on the tree: which node `mkdir`, `rmtree` and `open` touch on a path `a/c`,
  relative to the directory the kernel reaches through `a` (`mkdir_real`, `doRmtree_real`, `doOpen_real`).

The theorems themselves (`…_touches_real`, `…_touches_linkfree_root`, `…_touches_ctor_partial`) and the
witness that some hypothesis on the root is needed (`root_loop_witness`) are in `Props/C18.lean`.
-/
namespace Lt.Path

theorem jrAux_linkfree (fs : FS) (rec : Seen → P → P → Except Err JR) (seen : Seen) (r : JR) :
    ∀ (rest path : P), NormalP rest → LinkFree fs (path ++ rest) →
      jrAux fs rec seen path rest = .ok r → r.ok = true ∧ r.path = path ++ rest := by
  intro rest
  induction rest with
  | nil =>
    intro path _ _ h
    cases h
    exact ⟨rfl, (List.append_nil _).symm⟩
  | cons name rest ih =>
    intro path hn hl h
    rw [jrAux_cons, jstep_normal fs path name hn.head hl.cons.1] at h
    by_cases hz : hasNul name = true
    · rw [if_pos hz] at h; cases h
    · rw [if_neg hz] at h
      rw [List.append_cons]
      exact ih _ hn.tail hl.cons.2 h

/-- a stored root that is a normal path none of whose prefixes is a symlink resolves to itself,
    without meeting a loop: "no prefix of the stored root is a symlink" is a property of the tree alone -/
theorem noLoop_of_linkFree {fs : FS} {fuel : Nat} {sp r : RPath} (hr : resolve fs fuel sp = .ok r)
    (hl : LinkFree fs sp.comps) (hn : NormalP sp.comps) :
    (∃ r0, jr fs fuel [] [] sp.comps = .ok r0 ∧ r0.ok = true) ∧ r.comps = sp.comps := by
  simp only [resolve] at hr
  cases hj : jr fs fuel [] [] sp.comps with
  | error e => rw [hj] at hr; cases hr
  | ok r0 =>
    have h0 : r0.ok = true ∧ r0.path = [] ++ sp.comps := by
      cases fuel with
      | zero => cases hj
      | succ n => exact jrAux_linkfree fs (jr fs n) [] r0 sp.comps [] hn hl hj
    refine ⟨⟨r0, rfl, h0.1⟩, ?_⟩
    rw [hj] at hr
    simp only [h0.2, List.nil_append, normpath_normal _ hn] at hr
    split at hr
    · cases hr
    · split at hr <;> cases hr <;> rfl

/-- a system call on a symlink-free normal path `p` acts on that very node: what holds of the directory
    `R` the kernel reaches through `p` holds of `p` -/
theorem at_linkfree_path {fs : FS} {p : P} {Q : P → Prop} (hl : LinkFree fs p) (hn : NormalP p)
    (h : ∃ R, kwalk fs true linkBudget [] p = .ok R ∧ lstat fs R = some .dir ∧ Q R) : Q p := by
  obtain ⟨R, hw, -, h⟩ := h
  rwa [kwalk_linkfree fs true 40 R p [] hn hl hw] at h

/-- `mkdir(a/c)` when `is_symlink(a/c)` answered `False`, with `R` the directory the kernel reaches
    through `a`: it fails, or the only node it can create is `R/c`, after it `a` still leads to `R` and
    `R/c` is not a symlink -/
theorem mkdir_real {fs : FS} {kp : RPath} {a : P} {c : Comp} (hkc : kp.comps = a ++ [c])
    (hcn : c ≠ [] ∧ c ≠ dot ∧ c ≠ dotdot) (hsym : pathIsSymlink fs kp = .ok false) :
    (∃ e, doMkdir fs kp = .failed e) ∨
    ∃ R, kwalk fs true linkBudget [] a = .ok R ∧ lstat fs R = some .dir ∧
      kwalk (fsAfterMkdir fs (doMkdir fs kp)) true linkBudget [] a = .ok R ∧
      optIsLink (lstat (fsAfterMkdir fs (doMkdir fs kp)) (R ++ [c])) = false ∧
      ∀ t ∈ touchOfMkdir (doMkdir fs kp), t = Touch.createDir (R ++ [c]) := by
  simp only [pathIsSymlink, doMkdir, hkc] at hsym ⊢
  cases hw : kwalk fs false linkBudget [] (a ++ [c]) with
  | error e => exact Or.inl ⟨errOfErrno e, rfl⟩
  | ok loc =>
    right
    obtain ⟨R, hR, hRd, hnf, -⟩ := kwalk_snoc hcn hw
    cases hw.symm.trans hnf
    simp only [hw, Except.ok.injEq] at hsym
    refine ⟨R, hR, hRd, ?_⟩
    cases hl : lstat fs (R ++ [c]) with
    | some nd => simp only [hl]; exact ⟨hR, hsym, nofun⟩
    | none =>
      simp only [hl]
      exact ⟨kwalk_after_mkdir fs _ hl true _ _ _ _ hR, lstat_cons_dir fs _ _ hsym,
        fun t ht => List.mem_singleton.mp ht⟩

theorem doRmtree_real {fs : FS} {kp : RPath} {a : P} {c : Comp} (hkc : kp.comps = a ++ [c])
    (hcn : c ≠ [] ∧ c ≠ dot ∧ c ≠ dotdot) :
    ∀ t ∈ (doRmtree fs kp).1, ∃ R, kwalk fs true linkBudget [] a = .ok R ∧ lstat fs R = some .dir ∧
      t = Touch.remove (R ++ [c]) := by
  simp only [doRmtree, hkc]
  cases hw : kwalk fs false linkBudget [] (a ++ [c]) with
  | error e => nofun
  | ok loc =>
    obtain ⟨R, hR, hRd, hnf, -⟩ := kwalk_snoc hcn hw
    cases hw.symm.trans hnf
    simp only
    split
    · exact fun t ht => ⟨R, hR, hRd, List.mem_singleton.mp ht⟩
    all_goals nofun

/-- `open(xs/f)` when `is_symlink(xs/f)` answered `False`: the only node it can write is the child
    `f` of the directory `K` the kernel reaches through `xs` -/
theorem doOpen_real {fs : FS} {fp : RPath} (mode : List Char) {xs : P} {f : Comp}
    (hf : fp.comps = xs ++ [f]) (hfn : f ≠ [] ∧ f ≠ dot ∧ f ≠ dotdot)
    (hsym : pathIsSymlink fs fp = .ok false) :
    ∀ t ∈ (doOpen fs fp mode).1, ∃ K, kwalk fs true linkBudget [] xs = .ok K ∧ lstat fs K = some .dir ∧
      t = Touch.write (K ++ [f]) := by
  -- whichever walk `open` makes, it ends at `K/f`: `is_symlink` looked at that very node
  have key : ∀ ff loc, kwalk fs ff linkBudget [] (xs ++ [f]) = .ok loc →
      ∀ t, t = Touch.write loc → ∃ K, kwalk fs true linkBudget [] xs = .ok K ∧
        lstat fs K = some .dir ∧ t = Touch.write (K ++ [f]) := by
    intro ff loc hw t ht
    obtain ⟨K, hK, hKd, hnf, hloc⟩ := kwalk_snoc hfn hw
    simp only [pathIsSymlink, hf, hnf, Except.ok.injEq] at hsym
    exact ⟨K, hK, hKd, by rw [ht, hloc hsym]⟩
  simp only [doOpen, hf]
  split
  · cases hw : kwalk fs false linkBudget [] (xs ++ [f]) with
    | error e => nofun
    | ok loc =>
      simp only
      split
      · nofun
      · exact fun t ht => key _ _ hw t (List.mem_singleton.mp ht)
  · cases hw : kwalk fs true linkBudget [] (xs ++ [f]) with
    | error e => nofun
    | ok loc =>
      simp only
      split
      · nofun
      · split
        · exact fun t ht => key _ _ hw t (List.mem_singleton.mp ht)
        · nofun
      · split
        · exact fun t ht => key _ _ hw t (List.mem_singleton.mp ht)
        · nofun

end Lt.Path
