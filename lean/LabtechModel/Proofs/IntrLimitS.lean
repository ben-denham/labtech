import LabtechModel.Proofs.IntrLimitW
/-!
# M10, serial runner: at most one task is started and not yet yielded, after EVERY primitive

Counted on the observable trace: `nStart` = number of `Ev.start` records (`run()` / the cache load
was entered), `nYield` = number of `Ev.yield` records (the coordinator got the task back from
`runner.wait`). For the serial runner `nStart ≤ nYield + 1` after every primitive of the main stream
and of both interrupt handlers; between two `wait` calls of an uninterrupted run `nStart ≤ nYield`.
-/
namespace Lt

variable {cfg : Config} {p : Problem}

def isStartEv : Ev → Bool
  | .start _ => true
  | _ => false

def isYieldEv : Ev → Bool
  | .yield _ _ => true
  | _ => false

def nStart (s : IS) : Nat := s.rs.trace.countP isStartEv
def nYield (s : IS) : Nat := s.rs.trace.countP isYieldEv

theorem nYield_mono (q : Prim) (s : IS) : nYield s ≤ nYield (applyPrim cfg p q s) := by
  obtain ⟨l, hl, _⟩ := trace_ext (cfg := cfg) (p := p) q s
  simp only [nYield, hl, List.countP_append]
  omega

theorem nStart_nolaunch (q : Prim) (s : IS) (h : q.launches = false) :
    nStart (applyPrim cfg p q s) = nStart s := by
  obtain ⟨l, hl, hn⟩ := trace_ext (cfg := cfg) (p := p) q s
  have : l.countP isStartEv = 0 := by
    rw [List.countP_eq_zero]
    intro e he
    have := hn h e he
    cases e <;> simp [evLaunch, isStartEv] at this ⊢
  simp only [nStart, hl, List.countP_append, this, Nat.add_zero]

/-- primitives that add no `start` record -/
def Prim.noRun : Prim → Bool
  | .procStart _ | .serialRun => false
  | _ => true

theorem noRun_of_nolaunch {q : Prim} (h : q.launches = false) : q.noRun = true := by
  cases q <;> first | rfl | exact Bool.noConfusion h

theorem nStart_same (q : Prim) (s : IS) (h : q.noRun = true) : nStart (applyPrim cfg p q s) = nStart s := by
  by_cases hl : q.launches = false
  · exact nStart_nolaunch q s hl
  · by_cases hrun : s.rs.status = .running
    · rw [applyPrim_running _ _ hrun]
      cases q <;> simp [Prim.launches] at hl <;> simp [Prim.noRun] at h <;>
        simp only [stepPrim, nStart, keyErr] <;> (repeat' split) <;>
        simp [List.countP_append, isStartEv]
    · rw [applyPrim_stopped _ _ hrun]

theorem nStart_serialRun (s : IS) : nStart (applyPrim cfg p Prim.serialRun s) ≤ nStart s + 1 := by
  by_cases hrun : s.rs.status = .running
  · rw [applyPrim_running _ _ hrun]
    simp only [stepPrim, nStart]
    split
    · simp only [runEvents]
      split <;> simp [List.countP_append, List.countP_cons, isStartEv]
    · omega
  · rw [applyPrim_stopped _ _ hrun]; omega

theorem popFuture_yield (t : Tid) (o : Outcome) (s : IS)
    (h : (applyPrim cfg p (Prim.popFuture t (some o)) s).rs.status = .running) :
    nYield (applyPrim cfg p (Prim.popFuture t (some o)) s) = nYield s + 1 := by
  have hrun := running_of_step _ s h
  rw [applyPrim_running _ _ hrun] at h ⊢
  simp only [stepPrim] at h ⊢
  split at h
  · rename_i ht
    simp [nYield, ht, List.countP_append, isYieldEv]
  · simp [keyErr] at h

/-- after every primitive -/
def J1 (s : IS) : Prop := nStart s ≤ nYield s + 1
/-- between two `wait` calls -/
def J0 (s : IS) : Prop := J1 s ∧ (s.rs.status = .running → nStart s ≤ nYield s)

theorem J1_step (q : Prim) (s : IS) (hq : q.noRun = true) (h : J1 s) : J1 (applyPrim cfg p q s) := by
  have h1 := nStart_same (cfg := cfg) (p := p) q s hq
  have h2 := nYield_mono (cfg := cfg) (p := p) q s
  unfold J1 at *
  omega

theorem J0_step (q : Prim) (s : IS) (hq : q.noRun = true) (h : J0 s) : J0 (applyPrim cfg p q s) := by
  refine ⟨J1_step q s hq h.1, fun hr => ?_⟩
  have h1 := nStart_same (cfg := cfg) (p := p) q s hq
  have h2 := nYield_mono (cfg := cfg) (p := p) q s
  have := h.2 (running_of_step q s hr)
  omega

/-- a block of the serial main stream: `J1` after every primitive, `J0` again at its end -/
abbrev JBlock (cfg : Config) (p : Problem) : List Prim → IS → Prop := AlwaysTo cfg p J1 J0

theorem J_seq : BlockSeq cfg p J0 (JBlock cfg p) := AlwaysTo.isSeq (fun _ h => h.1)

theorem J_safe (ps : List Prim) (s : IS) (hq : ∀ q ∈ ps, q.noRun = true) (h : J0 s) : JBlock cfg p ps s :=
  AlwaysTo.of_always (fun _ h => h.1) (always_of_step ps s (fun q hq' s h => J0_step q s (hq q hq') h) h)

/-- `wait`: `run()` starts the one task, the pop that follows yields it -/
theorem JBlock_wait_serial (hb : cfg.backend = .serial) (req : List Tid) (c : Choice) (s : IS) (h : J0 s) :
    JBlock cfg p (waitPrims cfg p req c s) s := by
  rw [waitPrims, if_pos hb]
  split
  · exact J_safe _ s (by simp [Prim.noRun]) h
  · rename_i j rest hq
    have b1 := J0_step (cfg := cfg) (p := p) Prim.popDeque s rfl h
    have b2 : J1 (applyPrim cfg p Prim.serialRun (applyPrim cfg p Prim.popDeque s)) := by
      have h1 := nStart_serialRun (cfg := cfg) (p := p) (applyPrim cfg p Prim.popDeque s)
      have h2 := nYield_mono (cfg := cfg) (p := p) Prim.serialRun (applyPrim cfg p Prim.popDeque s)
      unfold J1
      by_cases hr : (applyPrim cfg p Prim.popDeque s).rs.status = .running
      · have := b1.2 hr; omega
      · rw [applyPrim_stopped _ _ hr]; exact b1.1
    have b3 := J1_step (cfg := cfg) (p := p) Prim.serialSaveBegin _ rfl b2
    have b4 := J1_step (cfg := cfg) (p := p) Prim.serialSaveEnd _ rfl b3
    obtain ⟨s4, hs4⟩ : ∃ s4, s4 = applyPrim cfg p Prim.serialSaveEnd (applyPrim cfg p Prim.serialSaveBegin
      (applyPrim cfg p Prim.serialRun (applyPrim cfg p Prim.popDeque s))) := ⟨_, rfl⟩
    rw [← hs4] at b4
    have b5 : ∀ o, J0 (applyPrim cfg p (Prim.popFuture j.tid (some o)) s4) := by
      intro o
      refine ⟨J1_step _ s4 rfl b4, fun hr => ?_⟩
      have h1 := popFuture_yield j.tid o s4 hr
      have h2 := nStart_same (cfg := cfg) (p := p) (Prim.popFuture j.tid (some o)) s4 rfl
      unfold J1 at b4
      omega
    subst hs4
    exact J_seq.seq (a := [Prim.popDeque, Prim.serialRun, Prim.serialSaveBegin, Prim.serialSaveEnd] ++
      [Prim.popFuture j.tid (some _)]) ⟨⟨h.1, b1.1, b2, b3, b4, (b5 _).1⟩, b5 _⟩
      (J_safe _ _ (members_yield (P := fun q => q.noRun = true)
        ⟨fun _ h _ => noRun_of_nolaunch h, fun _ _ => rfl⟩ req _ _ _) (b5 _))

theorem always_J_main_serial (hb : cfg.backend = .serial) (req : List Tid) (sched : List Choice) (s : IS)
    (h : J0 s) : Always cfg p J1 (mainStream cfg p req sched s) s :=
  have one : ∀ s t, J0 s → JBlock cfg p (submitOnePrims cfg p s t) s := fun s t h => by
    rw [submitOnePrims, if_pos hb]; exact J_safe _ s (by simp [Prim.noRun]) h
  (J_seq.main (J_seq.iteration (fun s h _ => J_seq.submit one _ s h)
    (fun c s h _ => JBlock_wait_serial hb req c s h)) sched s h).1

theorem always_J_handler (req : List Tid) (ds : List Choice) (s : IS) (h : J1 s) :
    Always cfg p J1 (handlerPrims cfg p req ds s) s :=
  always_handler_nolaunch (fun q hq s => J1_step q s (noRun_of_nolaunch hq)) req ds s h

theorem always_J_second (req : List Tid) (s : IS) (h : J1 s) :
    Always cfg p J1 (secondPrims cfg p req s) s :=
  always_second_nolaunch (fun q hq s => J1_step q s (noRun_of_nolaunch hq)) req s h

theorem J0_init (store : Store) (fuel : Nat) : J0 (initIS cfg p store fuel) := by
  simp [J0, J1, nStart, nYield, initIS, initRS]

end Lt
