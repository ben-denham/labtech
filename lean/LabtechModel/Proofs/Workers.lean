import LabtechModel.Proofs.Limit
namespace Lt

theorem takeN_append {α} : ∀ (n : Nat) (l : List α), (takeN n l).1 ++ (takeN n l).2 = l := by
  intro n
  induction n with
  | zero => intro l; simp [takeN]
  | succ n ih =>
    intro l
    cases l with
    | nil => simp [takeN]
    | cons x xs => simp only [takeN, List.cons_append, ih xs]

theorem takeN_length_min {α} : ∀ (n : Nat) (l : List α), (takeN n l).1.length = min n l.length := by
  intro n
  induction n with
  | zero => intro l; simp [takeN]
  | succ n ih =>
    intro l
    cases l with
    | nil => simp [takeN]
    | cons x xs =>
      have := ih xs
      simp only [takeN, List.length_cons]
      omega

theorem takeN_length_le {α} (n : Nat) (l : List α) : (takeN n l).1.length ≤ n := by
  rw [takeN_length_min]; exact Nat.min_le_left _ _

theorem enumFrom_map_snd {α} : ∀ (l : List α) (n : Nat), (enumFrom n l).map (·.2) = l := by
  intro l
  induction l with
  | nil => intro n; rfl
  | cons x xs ih => intro n; simp only [enumFrom, List.map_cons, ih]

theorem filter_enum_length_le {α} (l : List α) (q : Nat × α → Bool) (n : Nat) :
    ((enumFrom n l).filter q).length ≤ l.length := by
  have h := List.length_filter_le q (enumFrom n l)
  rwa [← List.length_map (f := (·.2)) (as := enumFrom n l), enumFrom_map_snd] at h

variable (cfg : Config) (p : Problem) (req : List Tid)

def WorkersOK (cfg : Config) (rs : RS) : Prop := rs.running.length ≤ cfg.maxWorkers

theorem startProcesses_running_length (rs : RS) :
    (startProcesses cfg rs).running.length
      = rs.running.length + min (cfg.maxWorkers - rs.running.length) rs.queued.length := by
  simp [startProcesses, takeN_length_min]

theorem startProcesses_workers (rs : RS) (h : WorkersOK cfg rs) :
    WorkersOK cfg (startProcesses cfg rs) := by
  unfold WorkersOK at *
  rw [startProcesses_running_length]
  omega

theorem submitTask_workers (rs : RS) (t : Tid) (h : WorkersOK cfg rs) :
    WorkersOK cfg (submitTask cfg p rs t) := by
  simp only [submitTask]
  split
  · exact h
  · exact startProcesses_workers cfg _ h

theorem submitAll_workers :
    ∀ (l : List Tid) (rs : RS), WorkersOK cfg rs → WorkersOK cfg (submitAll cfg p l rs) :=
  submitAll_ind (WorkersOK cfg) (fun _ t _ _ h => submitTask_workers cfg p _ t h) (fun _ h => h)

theorem processYields_running :
    ∀ (ys : List (Tid × Outcome)) (rs : RS), (processYields cfg req ys rs).running = rs.running :=
  fun ys rs => processYields_const (fun rs' => rs'.running = rs.running)
    (fun _ t o h => (processYield_running cfg req _ t o).trans h) ys rs rfl

theorem processYields_queued :
    ∀ (ys : List (Tid × Outcome)) (rs : RS), (processYields cfg req ys rs).queued = rs.queued :=
  fun ys rs => processYields_const (fun rs' => rs'.queued = rs.queued)
    (fun _ t o h => (processYield_queued cfg req _ t o).trans h) ys rs rfl

/-- a process wait reaps before it starts: the workers that stay are among those that ran -/
theorem procPre_workers (c : Choice) (rs : RS) (h : WorkersOK cfg rs) :
    WorkersOK cfg (procPre p c rs) :=
  Nat.le_trans (by simpa [procPre, stayJobs] using filter_enum_length_le rs.running _ 0) h

theorem workers_stepInv :
    StepInv cfg p req (WorkersOK cfg) where
  submit := fun rs h => submitAll_workers cfg p _ rs h
  idle := fun _ _ h => h
  serial := fun _ _ _ _ _ h => h
  proc := fun _ c rs h => startProcesses_workers cfg _ (procPre_workers cfg p c rs h)
  yield := fun rs t o h => by unfold WorkersOK; rw [processYield_running]; exact h

theorem runLoop_workers (sched : List Choice) (rs : RS)
    (h : WorkersOK cfg rs) : WorkersOK cfg (runLoop cfg p req sched rs) :=
  (workers_stepInv cfg p req).runLoop sched rs h

/-- the serial runner never has a worker process: it executes in the caller -/
theorem serialRunning_stepInv (hs : cfg.backend = .serial) :
    StepInv cfg p req (fun rs => rs.running = []) where
  submit := fun rs h => submitAll_ind (fun rs => rs.running = [])
    (fun _ _ _ _ h => by simpa [submitTask, hs] using h) (fun _ h => h) _ rs h
  idle := fun _ _ h => h
  serial := fun _ _ _ _ _ h => h
  proc := fun hb => absurd hs hb
  yield := fun rs t o h => (processYield_running cfg req _ t o).trans h

theorem iteration_serial_running (c : Choice) (rs : RS)
    (hs : cfg.backend = .serial) (h : rs.running = []) : (iteration cfg p req c rs).running = [] :=
  (serialRunning_stepInv cfg p req hs).iteration c rs h

end Lt
