import LabtechModel.Model.Path
/-! Lemmas for C18 (path model M8): strings, normal and symlink-free paths, `_joinrealpath` seen one
component at a time (`jstep`), the outcomes of `exists` / `file_handle` / `delete` (`op*_ok`). -/
namespace Lt.Path

theorem splitSlash_ne_nil (s : List Char) : splitSlash s ≠ [] := by
  induction s with
  | nil => simp [splitSlash]
  | cons c cs ih =>
    simp only [splitSlash]
    split
    · simp
    · split <;> simp

theorem splitSlash_no_slash (s : List Char) (h : '/' ∉ s) : splitSlash s = [s] := by
  induction s with
  | nil => rfl
  | cons c cs ih =>
    rw [List.mem_cons, not_or] at h
    simp only [splitSlash, Ne.symm h.1, if_false, ih h.2]

theorem parent_eq_child {kp r : RPath} (hr : r.comps ≠ []) (h : kp.parent = r) :
    ∃ c, kp = ⟨r.ds, r.comps ++ [c]⟩ := by
  subst h
  cases kp with
  | mk ds comps =>
    have hl : comps ≠ [] := fun e => hr (by rw [e]; rfl)
    exact ⟨comps.getLast hl, by
      show RPath.mk ds comps = ⟨ds, comps.dropLast ++ [comps.getLast hl]⟩
      rw [List.dropLast_concat_getLast]⟩

theorem child_of_child {fp kp r : RPath} {c : Comp} (hk : kp = ⟨r.ds, r.comps ++ [c]⟩)
    (h : fp.parent = kp) : ∃ f, fp = ⟨r.ds, r.comps ++ [c, f]⟩ := by
  obtain ⟨f, hf⟩ := parent_eq_child (by rw [hk]; simp) h
  exact ⟨f, by rw [hf, hk, List.append_assoc]; rfl⟩

/-- no empty, `.` or `..` component -/
def NormalP (p : P) : Prop := ∀ c ∈ p, c ≠ [] ∧ c ≠ dot ∧ c ≠ dotdot

/-- walking `p` from `/` never meets a symlink: no prefix of `p` (`p` included) is one -/
def LinkFree (fs : FS) (p : P) : Prop := ∀ q, q <+: p → optIsLink (lstat fs q) = false

def Good (fs : FS) (p : P) : Prop := LinkFree fs p ∧ NormalP p

theorem normalP_nil : NormalP [] := fun _ hc => nomatch hc

theorem normalP_append (a b : P) (ha : NormalP a) (hb : NormalP b) : NormalP (a ++ b) :=
  fun c hc => (List.mem_append.mp hc).elim (ha c) (hb c)

theorem NormalP.head {c : Comp} {p : P} (h : NormalP (c :: p)) : c ≠ [] ∧ c ≠ dot ∧ c ≠ dotdot :=
  h c List.mem_cons_self

theorem NormalP.tail {c : Comp} {p : P} (h : NormalP (c :: p)) : NormalP p :=
  fun d hd => h d (List.mem_cons_of_mem _ hd)

theorem linkFree_snoc (fs : FS) (p : P) (n : Comp) (h : LinkFree fs p)
    (hl : optIsLink (lstat fs (p ++ [n])) = false) : LinkFree fs (p ++ [n]) := by
  intro q hq
  rcases List.prefix_concat_iff.mp hq with h1 | h1
  · rw [h1]; exact hl
  · exact h q h1

theorem LinkFree.cons {fs : FS} {p : P} {n : Comp} {rest : P} (h : LinkFree fs (p ++ n :: rest)) :
    optIsLink (lstat fs (p ++ [n])) = false ∧ LinkFree fs ((p ++ [n]) ++ rest) :=
  ⟨h _ ⟨rest, by simp⟩, by rwa [List.append_assoc]⟩

theorem good_nil (fs : FS) : Good fs [] :=
  ⟨fun q hq => by rw [List.prefix_nil.mp hq]; rfl, normalP_nil⟩

theorem good_dropLast (fs : FS) (p : P) (h : Good fs p) : Good fs p.dropLast :=
  ⟨fun q hq => h.1 q (hq.trans (List.dropLast_prefix p)), fun c hc => h.2 c (List.dropLast_subset p hc)⟩

theorem good_snoc (fs : FS) (p : P) (n : Comp) (h : Good fs p)
    (hn : n ≠ [] ∧ n ≠ dot ∧ n ≠ dotdot) (hl : optIsLink (lstat fs (p ++ [n])) = false) :
    Good fs (p ++ [n]) :=
  ⟨linkFree_snoc fs p n h.1 hl,
   normalP_append _ _ h.2 (fun c hc => by rw [List.mem_singleton.mp hc]; exact hn)⟩

theorem optIsLink_false_iff (o : Option Node) : optIsLink o = false ↔ ∀ t, o ≠ some (.link t) := by
  cases o with
  | none => exact ⟨fun _ _ => nofun, fun _ => rfl⟩
  | some nd => cases nd <;> simp [optIsLink]

theorem normAux_normal (acc p : P) (h : NormalP p) : normAux acc p = acc ++ p := by
  induction p generalizing acc with
  | nil => simp [normAux]
  | cons c cs ih =>
    have hc := h.head
    simp only [normAux, hc.1, hc.2.1, hc.2.2, or_self, if_false]
    rw [ih _ h.tail, List.append_assoc]; rfl

theorem normpath_normal (p : P) (h : NormalP p) : normpath p = p :=
  normAux_normal [] p h

theorem normAux_out_normal (acc p : P) (h : NormalP acc) : NormalP (normAux acc p) := by
  induction p generalizing acc with
  | nil => exact h
  | cons c cs ih =>
    simp only [normAux]
    split
    · exact ih acc h
    · rename_i h1
      split
      · exact ih _ (fun d hd => h d (List.dropLast_subset acc hd))
      · rename_i h2
        refine ih _ (normalP_append _ _ h fun d hd => ?_)
        rw [List.mem_singleton.mp hd]
        exact ⟨fun e => h1 (Or.inl e), fun e => h1 (Or.inr e), h2⟩

theorem normpath_out_normal (p : P) : NormalP (normpath p) :=
  normAux_out_normal [] p normalP_nil

theorem resolve_normal (fs : FS) (fuel : Nat) (p q : RPath) (h : resolve fs fuel p = .ok q) :
    NormalP q.comps := by
  simp only [resolve] at h
  split at h
  · cases h
  · split at h
    · cases h
    · split at h
      · cases h
      · cases h; exact normpath_out_normal _

/-- what the loop of `_joinrealpath` does with one component, up to the look at `seen` -/
inductive JStep where
  | go (p : P)
  | nul
  | link (tgt : List Char)

def jstep (fs : FS) (path : P) (name : Comp) : JStep :=
  if name = [] ∨ name = dot then .go path
  else if name = dotdot then .go path.dropLast
  else if hasNul name then .nul
  else match lstat fs (path ++ [name]) with
    | some (.link tgt) => .link tgt
    | _ => .go (path ++ [name])

theorem jrAux_cons (fs : FS) (rec : Seen → P → P → Except Err JR) (seen : Seen) (path : P) (name : Comp)
    (rest : P) :
    jrAux fs rec seen path (name :: rest) =
      match jstep fs path name with
      | .go p => jrAux fs rec seen p rest
      | .nul => .error .value
      | .link tgt =>
        match List.lookup (path ++ [name]) seen with
        | some (some p) => jrAux fs rec seen p rest
        | some none =>
          .ok ⟨(joinStr false (path ++ [name]) rest).2, false, (joinStr false (path ++ [name]) rest).1, seen⟩
        | none =>
          match rec ((path ++ [name], none) :: seen) (if isAbs tgt then [] else path) (tgtComps tgt) with
          | .error e => .error e
          | .ok r =>
            if r.ok then jrAux fs rec ((path ++ [name], some r.path) :: r.seen) r.path rest
            else .ok ⟨(joinStr r.ds r.path rest).2, false, (joinStr r.ds r.path rest).1, r.seen⟩ := by
  rw [jrAux, jstep]
  by_cases h1 : name = [] ∨ name = dot
  · rw [if_pos h1, if_pos h1]
  · rw [if_neg h1, if_neg h1]
    by_cases h2 : name = dotdot
    · rw [if_pos h2, if_pos h2]
    · rw [if_neg h2, if_neg h2]
      by_cases h3 : hasNul name = true
      · rw [if_pos h3, if_pos h3]
      · rw [if_neg h3, if_neg h3]
        cases lstat fs (path ++ [name]) with
        | none => rfl
        | some nd => cases nd <;> rfl

theorem jstep_go_good (fs : FS) (path p : P) (name : Comp) (hp : Good fs path)
    (h : jstep fs path name = .go p) : Good fs p := by
  unfold jstep at h
  by_cases h1 : name = [] ∨ name = dot
  · rw [if_pos h1] at h; cases h; exact hp
  · rw [if_neg h1] at h
    by_cases h2 : name = dotdot
    · rw [if_pos h2] at h; cases h; exact good_dropLast fs path hp
    · rw [if_neg h2] at h
      by_cases h3 : hasNul name = true
      · rw [if_pos h3] at h; cases h
      · rw [if_neg h3] at h
        have hn : name ≠ [] ∧ name ≠ dot ∧ name ≠ dotdot := ⟨fun e => h1 (Or.inl e), fun e => h1 (Or.inr e), h2⟩
        cases hx : lstat fs (path ++ [name]) with
        | none => rw [hx] at h; cases h; exact good_snoc fs path name hp hn (by rw [hx]; rfl)
        | some nd =>
          rw [hx] at h
          cases nd <;> cases h <;> exact good_snoc fs path name hp hn (by rw [hx]; rfl)

theorem jstep_normal (fs : FS) (path : P) (name : Comp) (hn : name ≠ [] ∧ name ≠ dot ∧ name ≠ dotdot)
    (hl : optIsLink (lstat fs (path ++ [name])) = false) :
    jstep fs path name = if hasNul name then .nul else .go (path ++ [name]) := by
  rw [jstep, if_neg (not_or.mpr ⟨hn.1, hn.2.1⟩), if_neg hn.2.2]
  split
  · rfl
  · split
    · rename_i t hx; exact absurd hx ((optIsLink_false_iff _).mp hl t)
    · rfl

/-- the cached results in `seen` are good paths (a `none` entry marks a link that is being resolved) -/
def SeenOK (fs : FS) (seen : Seen) : Prop := ∀ q p, (q, some p) ∈ seen → Good fs p

theorem seenOK_cons (fs : FS) (seen : Seen) (q : P) (o : Option P) (hs : SeenOK fs seen)
    (ho : ∀ p, o = some p → Good fs p) : SeenOK fs ((q, o) :: seen) := by
  intro q' p hm
  rcases List.mem_cons.mp hm with e | e
  · exact ho p (Prod.mk.inj e).2.symm
  · exact hs q' p e

theorem lookup_mem {α β} [BEq α] [LawfulBEq α] (k : α) (l : List (α × β)) (v : β)
    (h : List.lookup k l = some v) : (k, v) ∈ l := by
  induction l with
  | nil => cases h
  | cons e es ih =>
    obtain ⟨a, b⟩ := e
    simp only [List.lookup] at h
    split at h
    · rename_i heq
      cases h; rw [eq_of_beq heq]; exact List.mem_cons_self
    · exact List.mem_cons_of_mem _ (ih h)

/-- what `_joinrealpath` keeps, stated for the recursive call so that it passes from `jr fs n` to
    `jrAux fs (jr fs n)`: started on a good path with good cached results, it leaves good cached results,
    and a result with `ok` (no symlink loop was hit) is a good path — no symlink on it -/
def RecOK (fs : FS) (rec : Seen → P → P → Except Err JR) : Prop :=
  ∀ seen path rest r, Good fs path → SeenOK fs seen → rec seen path rest = .ok r →
    SeenOK fs r.seen ∧ (r.ok = true → Good fs r.path)

theorem jrAux_good (fs : FS) (rec : Seen → P → P → Except Err JR) (hrec : RecOK fs rec) :
    RecOK fs (jrAux fs rec) := by
  intro seen path rest
  induction rest generalizing seen path with
  | nil =>
    intro r hp hs h
    cases h
    exact ⟨hs, fun _ => hp⟩
  | cons name rest ih =>
    intro r hp hs h
    rw [jrAux_cons] at h
    cases hj : jstep fs path name with
    | go p => simp only [hj] at h; exact ih _ _ r (jstep_go_good fs path p name hp hj) hs h
    | nul => simp only [hj] at h; cases h
    | link tgt =>
      simp only [hj] at h
      cases hl : List.lookup (path ++ [name]) seen with
      | some o =>
        simp only [hl] at h
        cases o with
        | some p => exact ih _ _ r (hs _ p (lookup_mem _ _ _ hl)) hs h
        | none => cases h; exact ⟨hs, nofun⟩
      | none =>
        simp only [hl] at h
        -- the recursive call starts from `/` or from the good `path`, with the link marked as being resolved
        cases hr' : rec ((path ++ [name], none) :: seen) (if isAbs tgt then [] else path) (tgtComps tgt) with
        | error e => simp only [hr'] at h; cases h
        | ok r' =>
          simp only [hr'] at h
          have hr := hrec _ _ _ r' (by split; exact good_nil fs; exact hp)
            (seenOK_cons fs seen _ none hs nofun) hr'
          by_cases hok : r'.ok = true
          · rw [if_pos hok] at h
            exact ih _ _ r (hr.2 hok)
              (seenOK_cons fs _ _ _ hr.1 fun p e => by cases e; exact hr.2 hok) h
          · rw [if_neg hok] at h
            cases h; exact ⟨hr.1, nofun⟩

theorem jr_good (fs : FS) (fuel : Nat) : RecOK fs (jr fs fuel) := by
  induction fuel with
  | zero => intro seen path rest r _ _ h; cases h
  | succ n ih => exact jrAux_good fs _ ih

/-- what `_key_to_path` has checked when it returns `kp` -/
structure KeyOK (fs : FS) (fuel : Nat) (sp : RPath) (key : List Char) (kp : RPath) : Prop where
  nonempty : key ≠ []
  allowed : disallowed.any (fun c => key.contains c) = false
  resolved : resolve fs fuel (pjoin sp key) = .ok kp
  notLink : pathIsSymlink fs kp = .ok false
  parent : ∃ r, resolve fs fuel sp = .ok r ∧ kp.parent = r

section
variable {fs : FS} {fuel : Nat} {sp : RPath} {key : List Char} {kp : RPath}

theorem keyToPath_ok (h : keyToPath fs fuel sp key = .ok kp) : KeyOK fs fuel sp key kp := by
  unfold keyToPath at h
  cases hv : validateKey fs fuel sp key with
  | error e => rw [hv] at h; cases h
  | ok u =>
    simp only [hv] at h
    unfold validateKey at hv
    by_cases hne : key = []
    · rw [if_pos hne] at hv; cases hv
    · cases hch : disallowed.any (fun c => key.contains c) with
      | true => rw [if_neg hne, hch, if_pos rfl] at hv; cases hv
      | false =>
        simp only [if_neg hne, hch, h, Bool.false_eq_true, if_false] at hv
        cases hr : resolve fs fuel sp with
        | error e => simp only [hr] at hv; cases hv
        | ok r =>
          simp only [hr] at hv
          by_cases hpar : kp.parent = r
          · refine ⟨hne, hch, h, ?_, r, hr, hpar⟩
            simp only [hpar, ne_eq, not_true_eq_false, if_false] at hv
            cases hsym : pathIsSymlink fs kp with
            | error e => simp only [hsym] at hv; cases hv
            | ok b => cases b with
              | false => rfl
              | true => simp only [hsym] at hv; cases hv
          · rw [if_pos hpar] at hv; cases hv

theorem child_normal {p : RPath} {a : P} {c : Comp} (h : resolve fs fuel p = .ok kp)
    (hk : kp.comps = a ++ [c]) : c ≠ [] ∧ c ≠ dot ∧ c ≠ dotdot :=
  resolve_normal fs fuel p kp h c (by rw [hk]; simp)

theorem op_rejected {e : Err} (hk : keyToPath fs fuel sp key = .error e) (fname mode : List Char) {o : Outcome}
    (ho : o = opExists fs fuel sp key ∨ o = opFileHandle fs fuel sp key fname mode ∨ o = opDelete fs fuel sp key) :
    o.effects = [] ∧ o.touched = [] := by
  rcases ho with rfl | rfl | rfl
  · rw [opExists, hk]; exact ⟨rfl, rfl⟩
  · rw [opFileHandle, hk]; exact ⟨rfl, rfl⟩
  · rw [opDelete, hk]; exact ⟨rfl, rfl⟩

theorem opExists_ok (hk : keyToPath fs fuel sp key = .ok kp) :
    (opExists fs fuel sp key).effects = [.stat kp] ∧ (opExists fs fuel sp key).touched = [] := by
  simp only [opExists, hk]
  cases pathExists fs kp <;> exact ⟨rfl, rfl⟩

/-- the three ways `file_handle` can end once the key is accepted: before the `lstat` (with or without an
    error), at the `lstat`, or with the file opened -/
theorem opFileHandle_ok (hk : keyToPath fs fuel sp key = .ok kp) (fname mode : List Char) {o : Outcome}
    (ho : opFileHandle fs fuel sp key fname mode = o) :
    (o.effects = [.mkdir kp] ∧ o.touched = touchOfMkdir (doMkdir fs kp)) ∨
    ∃ fp, resolve (fsAfterMkdir fs (doMkdir fs kp)) fuel (pjoin kp fname) = .ok fp ∧ fp.parent = kp ∧
      ((o.effects = [.mkdir kp, .lstatEnd fp] ∧ o.touched = touchOfMkdir (doMkdir fs kp)) ∨
       (pathIsSymlink (fsAfterMkdir fs (doMkdir fs kp)) fp = .ok false ∧
        o.effects = [.mkdir kp, .lstatEnd fp, .openf fp mode] ∧
        o.touched = touchOfMkdir (doMkdir fs kp) ++ (doOpen (fsAfterMkdir fs (doMkdir fs kp)) fp mode).1)) := by
  subst ho
  simp only [opFileHandle, hk]
  generalize doMkdir fs kp = m
  cases m
  case failed e => exact Or.inl ⟨rfl, rfl⟩
  all_goals
    simp only
    cases hres : resolve (fsAfterMkdir fs _) fuel (pjoin kp fname) with
    | error e => exact Or.inl ⟨rfl, rfl⟩
    | ok fp =>
      simp only
      by_cases hpar : fp.parent = kp
      · refine Or.inr ⟨fp, rfl, hpar, ?_⟩
        simp only [hpar, ne_eq, not_true_eq_false, if_false]
        cases hsym : pathIsSymlink (fsAfterMkdir fs _) fp with
        | error e => exact Or.inl ⟨rfl, rfl⟩
        | ok b => cases b with
          | true => exact Or.inl ⟨rfl, rfl⟩
          | false => exact Or.inr ⟨rfl, rfl, rfl⟩
      · rw [if_pos hpar]; exact Or.inl ⟨rfl, rfl⟩

theorem opDelete_ok (hk : keyToPath fs fuel sp key = .ok kp) :
    ((opDelete fs fuel sp key).effects = [.stat kp] ∧ (opDelete fs fuel sp key).touched = []) ∨
    ((opDelete fs fuel sp key).effects = [.stat kp, .rmtree kp] ∧
      (opDelete fs fuel sp key).touched = (doRmtree fs kp).1) := by
  simp only [opDelete, hk]
  cases pathExists fs kp with
  | error e => exact Or.inl ⟨rfl, rfl⟩
  | ok b => cases b with
    | false => exact Or.inl ⟨rfl, rfl⟩
    | true => exact Or.inr ⟨rfl, rfl⟩

end

end Lt.Path
