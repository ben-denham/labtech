import LabtechModel.Proofs.LinkExampleKeys
import LabtechModel.Proofs.LinkSched
/-! The example universe `exPU` of `Proofs/LinkExampleKeys.lean` is a DAG named dependencies-first. -/
namespace Lt.Link
open Lt

theorem exPU_uok (req : List Tid) (h : ∀ t ∈ req, t < 3) : UOK exPU req where
  down := by
    intro t d hd
    have hd' : d ∈ (if t = 2 then [0, 1] else []) := hd
    split at hd'
    · next h2 =>
      subst h2
      simp only [List.mem_cons, List.not_mem_nil, or_false] at hd'
      rcases hd' with h | h <;> subst h <;> decide
    · simp at hd'
  reqLt := h

/-- why the specification-level link needs `MapOK` (a map entry only for tasks that persist): with an
    entry for task 1, whose type has `cache=None`, the history model's specification run *loads* it,
    while the scheduler (whose `use_cache` asks the type's cache, `NullCache.is_cached = False`) executes
    it.  For the abstraction `abs U d` of a disk `MapOK` always holds (`abs_mapOK`). -/
example :
    let m : Store.AMap := fun t => if t = 1 then some { val := 7, start := 0, dur := 0 } else none
    let r := run { backend := .serial, maxWorkers := 1, contOnFail := true, bust := false }
      (toProblem exPU (fun _ => none) 1 [] [1]) [(1, 7)] 3 (List.replicate 3 chooseAll)
    StoreRel m [(1, 7)] ∧ ¬ MapOK exPU m ∧
    (Store.specRun exPU false 1 [] [1] m).loaded.map Prod.fst = [1] ∧
    (Store.specRun exPU false 1 [] [1] m).execd = [] ∧
    Ev.exec 1 [] ∈ r.trace ∧ Ev.load 1 ∉ r.trace := by
  refine ⟨?_, ?_, ?_⟩
  · intro t
    by_cases h : t = 1
    · subst h; rfl
    · simp [lookup, h, Ne.symm h]
  · intro h
    have := h 1 (by decide)
    revert this
    decide
  · decide +kernel

end Lt.Link
