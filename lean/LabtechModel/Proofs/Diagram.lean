import LabtechModel.Model.Diagram
/-!
Helper definitions and lemmas for C20: the specification-side notions (all task sub-terms, the
visiting order, look-ups in the structure) and how each operation of `build` acts on them.
-/
namespace Lt.Diag

inductive Forall2 {α β : Type} (R : α → β → Prop) : List α → List β → Prop
  | nil : Forall2 R [] []
  | cons {a b l₁ l₂} : R a b → Forall2 R l₁ l₂ → Forall2 R (a :: l₁) (b :: l₂)

mutual
/-- every task sub-term of a value, at any depth, also through tasks (where `findTasks` stops) -/
def subValue : Value → List Task
  | .scalar => []
  | .tuple items => subList items
  | .dict items => subFields items
  | .task t => subTask t
def subTask : Task → List Task
  | .mk ty fields => .mk ty fields :: subFields fields
def subList : List Value → List Task
  | [] => []
  | v :: vs => subValue v ++ subList vs
def subFields : List (String × Value) → List Task
  | [] => []
  | (_, v) :: rest => subValue v ++ subFields rest
end

/-- every task sub-term of a list of tasks: the tasks "reachable through parameters at any depth" -/
def subQueue : List Task → List Task
  | [] => []
  | t :: q => subTask t ++ subQueue q

theorem subQueue_append (a b : List Task) : subQueue (a ++ b) = subQueue a ++ subQueue b := by
  induction a with
  | nil => rfl
  | cons t q ih => simp [subQueue, ih]

theorem sizeQueue_append (a b : List Task) : sizeQueue (a ++ b) = sizeQueue a + sizeQueue b := by
  induction a with
  | nil => simp [sizeQueue]
  | cons t q ih => simp [sizeQueue, ih]; omega

/-! `find_tasks_in_param` loses no task sub-term: below the tasks it finds are all those of the value, in
the same order (and so as many). -/
mutual
theorem value_find : ∀ v : Value, subValue v = subQueue (findTasks v) ∧ sizeValue v = sizeQueue (findTasks v)
  | .scalar => ⟨rfl, rfl⟩
  | .tuple items => by simp [subValue, sizeValue, findTasks, list_find items]
  | .dict items => by simp [subValue, sizeValue, findTasks, fields_find items]
  | .task t => by simp [subValue, sizeValue, findTasks, subQueue, sizeQueue]
theorem list_find : ∀ l : List Value, subList l = subQueue (findList l) ∧ sizeList l = sizeQueue (findList l)
  | [] => ⟨rfl, rfl⟩
  | v :: vs => by simp [subList, sizeList, findList, subQueue_append, sizeQueue_append, value_find v, list_find vs]
theorem fields_find : ∀ l : List (String × Value),
    subFields l = subQueue (findFields l) ∧ sizeFields l = sizeQueue (findFields l)
  | [] => ⟨rfl, rfl⟩
  | (_, v) :: rest => by
    simp [subFields, sizeFields, findFields, subQueue_append, sizeQueue_append, value_find v, fields_find rest]
end

theorem subValue_find : ∀ v : Value, subValue v = subQueue (findTasks v) := fun v => (value_find v).1
theorem subList_find : ∀ l : List Value, subList l = subQueue (findList l) := fun l => (list_find l).1
theorem sizeValue_find : ∀ v : Value, sizeValue v = sizeQueue (findTasks v) := fun v => (value_find v).2
theorem sizeList_find : ∀ l : List Value, sizeList l = sizeQueue (findList l) := fun l => (list_find l).2

theorem subTask_eq (t : Task) : subTask t = t :: subQueue (children t) := by
  cases t with
  | mk ty fields => simp [subTask, children, Task.fields, fields_find]

theorem sizeTask_eq (t : Task) : sizeTask t = 1 + sizeQueue (children t) := by
  cases t with
  | mk ty fields => simp [sizeTask, children, Task.fields, fields_find]

theorem sizeQueue_step (t : Task) (q : List Task) :
    sizeQueue (t :: q) = sizeQueue (q ++ children t) + 1 := by
  simp [sizeQueue, sizeQueue_append, sizeTask_eq]; omega

/-- induction along the `found_tasks` loop: `t :: q` is handled after `q ++ children t`, which has one task
    sub-term less -/
theorem queue_induction {P : List Task → Prop} (nil : P [])
    (step : ∀ t q, P (q ++ children t) → P (t :: q)) (q : List Task) : P q := by
  suffices ∀ n q, sizeQueue q ≤ n → P q from this _ q (Nat.le_refl _)
  intro n
  induction n with
  | zero =>
    intro q h
    cases q with
    | nil => exact nil
    | cons t q => rw [sizeQueue_step] at h; omega
  | succ n ih =>
    intro q h
    cases q with
    | nil => exact nil
    | cons t q => rw [sizeQueue_step] at h; exact step t q (ih _ (by omega))

/-- the tasks popped by the loop, in order (breadth-first over the parameter structure) -/
def visit : Nat → List Task → List Task
  | 0, _ => []
  | _ + 1, [] => []
  | n + 1, t :: q => t :: visit n (q ++ children t)

theorem buildLoop_eq_fold : ∀ (n : Nat) (q : List Task) (s : Struct),
    buildLoop n q s = (visit n q).foldl processTask s := by
  intro n
  induction n with
  | zero => intro q s; simp [buildLoop, visit]
  | succ n ih =>
    intro q s
    cases q with
    | nil => simp [buildLoop, visit]
    | cons t q => simp [buildLoop, visit, ih]

theorem visit_fuel (n : Nat) (q : List Task) (h : sizeQueue q ≤ n) : visit n q = visit (sizeQueue q) q := by
  induction q using queue_induction generalizing n with
  | nil => cases n <;> rfl
  | step t q ih =>
    rw [sizeQueue_step] at h ⊢
    cases n with
    | zero => omega
    | succ n => simp only [visit]; rw [ih n (by omega)]

theorem visit_perm (q : List Task) : (visit (sizeQueue q) q).Perm (subQueue q) := by
  induction q using queue_induction with
  | nil => exact .nil
  | step t q ih =>
    rw [sizeQueue_step, visit, subQueue, subTask_eq, List.cons_append]
    refine List.Perm.cons t (ih.trans ?_)
    rw [subQueue_append]
    exact List.perm_append_comm

theorem mem_subQueue_of_mem {t : Task} {q : List Task} (h : t ∈ q) : t ∈ subQueue q := by
  induction q with
  | nil => cases h
  | cons a q ih =>
    rw [subQueue, List.mem_append]
    rcases List.mem_cons.mp h with rfl | h
    · exact Or.inl (by rw [subTask_eq]; exact List.mem_cons_self)
    · exact Or.inr (ih h)

/-- the sub-terms of a queue are closed under `children`: what the loop appends for a reachable task is
    reachable (`a :: q` has the sub-terms `a` and those of `q ++ children a`) -/
theorem subQueue_children (t : Task) (q : List Task) (ht : t ∈ subQueue q) :
    ∀ d ∈ subQueue (children t), d ∈ subQueue q := by
  induction q using queue_induction with
  | nil => cases ht
  | step a q ih =>
    intro d hd
    have hstep : ∀ x, x ∈ subQueue (a :: q) ↔ x = a ∨ x ∈ subQueue (q ++ children a) := by
      intro x
      simp only [subQueue, subTask_eq, subQueue_append, List.cons_append, List.mem_cons, List.mem_append,
        Or.comm]
    rw [hstep] at ht ⊢
    rcases ht with rfl | ht
    · exact Or.inr (by rw [subQueue_append]; exact List.mem_append_right _ hd)
    · exact Or.inr (ih ht d hd)

theorem mem_children (t : Task) (p : String) (v : Value) (d : Task) (hv : (p, v) ∈ t.fields)
    (hd : d ∈ findTasks v) : d ∈ children t := by
  unfold children
  generalize t.fields = fs at hv
  induction fs with
  | nil => cases hv
  | cons f rest ih =>
    obtain ⟨n, w⟩ := f
    rw [findFields, List.mem_append]
    rcases List.mem_cons.mp hv with e | hv
    · cases e; exact Or.inl hd
    · exact Or.inr (ih hv)

theorem subQueue_closed (q : List Task) (t d : Task) (p : String) (v : Value) (ht : t ∈ subQueue q)
    (hv : (p, v) ∈ t.fields) (hd : d ∈ findTasks v) : d ∈ subQueue q :=
  subQueue_children t q ht d (mem_subQueue_of_mem (mem_children t p v d hv hd))

def types (s : Struct) : List Nat := s.map Prod.fst

/-- `task_type_to_rels[T]` (`[]` for an unrecorded type) -/
def getRels : Struct → Nat → Rels
  | [], _ => []
  | (ty, r) :: rest, T => if ty = T then r else getRels rest T

def keys (r : Rels) : List RelKey := r.map Prod.fst

/-- `rels[k].multi_cardinality` (`false` for an absent key) -/
def flag : Rels → RelKey → Bool
  | [], _ => false
  | (k', m) :: rest, k => if k' = k then m else flag rest k

/-- append if absent: how an insertion-ordered `dict` gains a key -/
def pushNew {α : Type} [DecidableEq α] (l : List α) (x : α) : List α := if x ∈ l then l else l ++ [x]

theorem mem_pushNew {α : Type} [DecidableEq α] (l : List α) (x y : α) : y ∈ pushNew l x ↔ y ∈ l ∨ y = x := by
  unfold pushNew
  split
  · next h => exact ⟨Or.inl, fun h' => h'.elim id (fun e => e ▸ h)⟩
  · simp

theorem nodup_pushNew {α : Type} [DecidableEq α] (l : List α) (x : α) (h : l.Nodup) : (pushNew l x).Nodup := by
  unfold pushNew
  split
  · exact h
  · next hx => exact List.nodup_append.mpr ⟨h, by simp, fun a ha b hb e =>
      hx (by rw [← List.mem_singleton.mp hb, ← e]; exact ha)⟩

theorem pushNew_cons {α : Type} [DecidableEq α] (l : List α) (x y : α) :
    pushNew (y :: l) x = if y = x then y :: l else y :: pushNew l x := by
  unfold pushNew
  by_cases h : y = x
  · simp [h]
  · have h' : ¬ x = y := fun e => h e.symm
    by_cases hm : x ∈ l <;> simp [h, h', hm]

/-- first-occurrence order: append each element that has not been seen yet (one step is `pushNew`) -/
def firstSeen : List Nat → List Nat → List Nat
  | acc, [] => acc
  | acc, x :: xs => firstSeen (if x ∈ acc then acc else acc ++ [x]) xs

theorem keys_relsAdd (r : Rels) (k : RelKey) (m : Bool) : keys (relsAdd r k m) = pushNew (keys r) k := by
  induction r with
  | nil => rfl
  | cons e rest ih =>
    obtain ⟨k', m'⟩ := e
    simp only [keys] at ih
    simp only [relsAdd, keys, List.map_cons, pushNew_cons]
    split
    · rfl
    · rw [List.map_cons, ih]

theorem flag_relsAdd (r : Rels) (k : RelKey) (m : Bool) (k' : RelKey) :
    flag (relsAdd r k m) k' = if k' = k then (flag r k || m) else flag r k' := by
  induction r with
  | nil => by_cases h : k' = k <;> simp [relsAdd, flag, h, @eq_comm _ k k']
  | cons e rest ih =>
    obtain ⟨k0, m0⟩ := e
    by_cases h0 : k0 = k
    · subst h0
      by_cases h : k' = k0 <;> simp [relsAdd, flag, h, @eq_comm _ k0 k']
    · by_cases h : k' = k
      · subst h; simp [relsAdd, flag, h0, ih]
      · simp [relsAdd, flag, h0, ih, h]

/-- all `add_relationship` calls of a list, applied to one type's relationships -/
def relsAddAll (r : Rels) (l : List (RelKey × Bool)) : Rels :=
  l.foldl (fun r x => relsAdd r x.1 x.2) r

theorem mem_keys_relsAddAll : ∀ (l : List (RelKey × Bool)) (r : Rels) (k : RelKey),
    k ∈ keys (relsAddAll r l) ↔ k ∈ keys r ∨ k ∈ l.map Prod.fst := by
  intro l
  induction l with
  | nil => intro r k; simp [relsAddAll]
  | cons x xs ih =>
    intro r k
    simp only [relsAddAll, List.foldl_cons] at ih ⊢
    rw [ih, keys_relsAdd, mem_pushNew, List.map_cons, List.mem_cons, or_assoc]

theorem nodup_keys_relsAddAll : ∀ (l : List (RelKey × Bool)) (r : Rels),
    (keys r).Nodup → (keys (relsAddAll r l)).Nodup := by
  intro l
  induction l with
  | nil => intro r h; exact h
  | cons x xs ih =>
    intro r h
    exact ih _ (by rw [keys_relsAdd]; exact nodup_pushNew _ _ h)

theorem flag_relsAddAll : ∀ (l : List (RelKey × Bool)) (r : Rels) (k : RelKey),
    flag (relsAddAll r l) k = true ↔ flag r k = true ∨ (k, true) ∈ l := by
  intro l
  induction l with
  | nil => intro r k; simp [relsAddAll]
  | cons x xs ih =>
    intro r k
    obtain ⟨xk, xm⟩ := x
    simp only [relsAddAll, List.foldl_cons] at ih ⊢
    rw [ih, flag_relsAdd]
    by_cases h : k = xk
    · subst h; simp [or_assoc]
    · simp [h]

theorem types_addType (s : Struct) (ty : Nat) : types (addType s ty) = pushNew (types s) ty := by
  induction s with
  | nil => rfl
  | cons e rest ih =>
    obtain ⟨ty', r⟩ := e
    simp only [types] at ih
    simp only [addType, types, List.map_cons, pushNew_cons]
    split
    · rfl
    · rw [List.map_cons, ih]

theorem getRels_addType (s : Struct) (ty T : Nat) : getRels (addType s ty) T = getRels s T := by
  induction s with
  | nil =>
    simp only [addType, getRels]
    split <;> rfl
  | cons e rest ih =>
    obtain ⟨ty', r⟩ := e
    simp only [addType]
    by_cases h : ty' = ty
    · simp [h]
    · simp only [h, if_false, getRels, ih]

theorem mem_types_addType (s : Struct) (ty : Nat) : ty ∈ types (addType s ty) := by
  rw [types_addType, mem_pushNew]; exact Or.inr rfl

theorem types_addRel (s : Struct) (f : Nat) (k : RelKey) (m : Bool) : types (addRel s f k m) = types s := by
  induction s with
  | nil => rfl
  | cons e rest ih =>
    obtain ⟨ty', r⟩ := e
    simp only [addRel, types] at *
    by_cases h : ty' = f
    · simp [h]
    · simp [h, ih]

theorem getRels_addRel (s : Struct) (f : Nat) (k : RelKey) (m : Bool) (T : Nat) (hf : f ∈ types s) :
    getRels (addRel s f k m) T = if T = f then relsAdd (getRels s f) k m else getRels s T := by
  induction s with
  | nil => cases hf
  | cons e rest ih =>
    obtain ⟨ty', r⟩ := e
    by_cases h : ty' = f
    · subst h
      by_cases hT : T = ty' <;> simp [addRel, getRels, hT, eq_comm]
    · have hf' : f ∈ types rest := (List.mem_cons.mp hf).resolve_left (fun e => h e.symm)
      by_cases hT : T = f
      · subst hT; simp [addRel, getRels, h, ih hf']
      · simp [addRel, getRels, h, ih hf', hT]
theorem addRelAll_spec (f : Nat) : ∀ (l : List (RelKey × Bool)) (s : Struct), f ∈ types s →
    types (l.foldl (fun s r => addRel s f r.1 r.2) s) = types s ∧
    ∀ T, getRels (l.foldl (fun s r => addRel s f r.1 r.2) s) T
          = if T = f then relsAddAll (getRels s f) l else getRels s T := by
  intro l
  induction l with
  | nil => intro s _; refine ⟨rfl, ?_⟩; intro T; by_cases h : T = f <;> simp [relsAddAll, h]
  | cons x xs ih =>
    intro s hf
    simp only [List.foldl_cons]
    obtain ⟨h1, h2⟩ := ih (addRel s f x.1 x.2) (by rw [types_addRel]; exact hf)
    refine ⟨by rw [h1, types_addRel], fun T => ?_⟩
    rw [h2 T, getRels_addRel _ _ _ _ _ hf, getRels_addRel _ _ _ _ _ hf]
    by_cases h : T = f
    · simp [h, relsAddAll]
    · simp [h]

theorem types_processTask (s : Struct) (t : Task) : types (processTask s t) = pushNew (types s) t.ty := by
  unfold processTask
  rw [(addRelAll_spec t.ty _ _ (mem_types_addType s t.ty)).1, types_addType]

theorem getRels_processTask (s : Struct) (t : Task) (T : Nat) :
    getRels (processTask s t) T
      = if T = t.ty then relsAddAll (getRels s T) (taskRels t.fields) else getRels s T := by
  unfold processTask
  rw [(addRelAll_spec t.ty _ _ (mem_types_addType s t.ty)).2 T]
  by_cases h : T = t.ty
  · subst h; simp [getRels_addType]
  · simp [h, getRels_addType]

theorem types_fold : ∀ (l : List Task) (s : Struct),
    types (l.foldl processTask s) = firstSeen (types s) (l.map Task.ty) := by
  intro l
  induction l with
  | nil => intro s; rfl
  | cons t ts ih => intro s; rw [List.foldl_cons, ih, types_processTask]; rfl

theorem mem_firstSeen (l acc : List Nat) (x : Nat) : x ∈ firstSeen acc l ↔ x ∈ acc ∨ x ∈ l := by
  induction l generalizing acc with
  | nil => simp [firstSeen]
  | cons y ys ih =>
    show x ∈ firstSeen (pushNew acc y) ys ↔ _
    rw [ih, mem_pushNew, List.mem_cons, or_assoc]

theorem nodup_firstSeen (l acc : List Nat) (h : acc.Nodup) : (firstSeen acc l).Nodup := by
  induction l generalizing acc with
  | nil => exact h
  | cons y ys ih => exact ih _ (nodup_pushNew _ _ h)

/-- all `add_relationship` calls that the tasks of type `T` in `l` make, in order -/
def relsOf (T : Nat) (l : List Task) : List (RelKey × Bool) :=
  (l.filter (fun t => t.ty = T)).flatMap (fun t => taskRels t.fields)

theorem mem_relsOf (T : Nat) (l : List Task) (x : RelKey × Bool) :
    x ∈ relsOf T l ↔ ∃ t ∈ l, t.ty = T ∧ x ∈ taskRels t.fields := by
  simp [relsOf, and_assoc]

theorem getRels_fold (T : Nat) : ∀ (l : List Task) (s : Struct),
    getRels (l.foldl processTask s) T = relsAddAll (getRels s T) (relsOf T l) := by
  intro l
  induction l with
  | nil => intro s; rfl
  | cons t ts ih =>
    intro s
    rw [List.foldl_cons, ih, getRels_processTask, relsOf, relsOf, List.filter_cons]
    by_cases h : t.ty = T
    · simp only [h, decide_true, if_true, List.flatMap_cons, relsAddAll, List.foldl_append]
    · have h' : ¬ T = t.ty := fun e => h e.symm
      simp only [h, h', decide_false, if_false, Bool.false_eq_true]

theorem mem_taskRels {fields : List (String × Value)} {k : RelKey} {m : Bool} :
    (k, m) ∈ taskRels fields ↔
      ∃ v, (k.1, v) ∈ fields ∧ (∃ d ∈ findTasks v, d.ty = k.2) ∧ m = !v.isTask := by
  induction fields with
  | nil => simp [taskRels]
  | cons e rest ih =>
    obtain ⟨name, v⟩ := e
    obtain ⟨p, D⟩ := k
    simp only [taskRels, List.mem_append, ih, fieldRels, List.mem_map, Prod.mk.injEq, List.mem_cons]
    constructor
    · rintro (⟨d, hd, ⟨h1, h2⟩, h3⟩ | ⟨v', hv', hd, hm⟩)
      · exact ⟨v, Or.inl ⟨h1.symm, rfl⟩, ⟨d, hd, h2⟩, h3.symm⟩
      · exact ⟨v', Or.inr hv', hd, hm⟩
    · rintro ⟨v', (⟨h1, h2⟩ | hv'), ⟨d, hd, hD⟩, hm⟩
      · subst h2
        exact Or.inl ⟨d, hd, ⟨h1.symm, hD⟩, hm.symm⟩
      · exact Or.inr ⟨v', hv', ⟨d, hd, hD⟩, hm⟩

theorem mem_iff_getRels : ∀ (s : Struct) (T : Nat) (r : Rels), (types s).Nodup →
    ((T, r) ∈ s ↔ T ∈ types s ∧ r = getRels s T) := by
  intro s
  induction s with
  | nil => intro T r _; simp [types]
  | cons e rest ih =>
    intro T r hnd
    obtain ⟨ty', r'⟩ := e
    simp only [types, List.map_cons, List.nodup_cons] at hnd
    by_cases hT : ty' = T
    · subst hT
      have : (ty', r) ∉ rest := fun h => hnd.1 (List.mem_map.mpr ⟨_, h, rfl⟩)
      simp [types, getRels, this]
    · have := ih T r hnd.2
      simp only [types] at this
      simp [types, getRels, hT, Ne.symm hT, this]

theorem flag_of_mem {r : Rels} {k : RelKey} {m : Bool} (hnd : (keys r).Nodup) (h : (k, m) ∈ r) :
    flag r k = m := by
  induction r with
  | nil => cases h
  | cons e rest ih =>
    obtain ⟨k', m'⟩ := e
    simp only [keys, List.map_cons, List.nodup_cons] at hnd
    rcases List.mem_cons.mp h with e | h
    · cases e; simp [flag]
    · have hne : ¬ k' = k := fun e => hnd.1 (e ▸ List.mem_map.mpr ⟨(k, m), h, rfl⟩)
      simp only [flag, hne, if_false]
      exact ih hnd.2 h

theorem mem_of_flag {r : Rels} {k : RelKey} (h : flag r k = true) : (k, true) ∈ r := by
  induction r with
  | nil => cases h
  | cons e rest ih =>
    obtain ⟨k', m'⟩ := e
    simp only [flag] at h
    split at h
    · next hk => rw [← hk, h]; exact List.mem_cons_self
    · exact List.mem_cons_of_mem _ (ih h)

theorem flag_iff_mem {r : Rels} {k : RelKey} (h : (keys r).Nodup) : flag r k = true ↔ (k, true) ∈ r :=
  ⟨mem_of_flag, flag_of_mem h⟩

theorem relLines_defined (tbl : TypeTable) (fromName : String) : ∀ r : Rels,
    (∀ k ∈ keys r, (lookupType tbl k.2).isSome) → (relLines tbl fromName r).isSome := by
  intro r
  induction r with
  | nil => intro _; rfl
  | cons e rest ih =>
    intro h
    obtain ⟨⟨p, d⟩, m⟩ := e
    obtain ⟨di, hdi⟩ := Option.isSome_iff_exists.mp (h (p, d) List.mem_cons_self)
    obtain ⟨ls, hls⟩ := Option.isSome_iff_exists.mp (ih fun k hk => h k (List.mem_cons_of_mem _ hk))
    simp [relLines, hdi, hls]

theorem classBlocks_defined (tbl : TypeTable) : ∀ s : Struct,
    (∀ T ∈ types s, (lookupType tbl T).isSome) → (classBlocks tbl s).isSome := by
  intro s
  induction s with
  | nil => intro _; rfl
  | cons e rest ih =>
    intro h
    obtain ⟨ty, r⟩ := e
    obtain ⟨i, hi⟩ := Option.isSome_iff_exists.mp (h ty List.mem_cons_self)
    obtain ⟨bs, hbs⟩ := Option.isSome_iff_exists.mp (ih fun T hT => h T (List.mem_cons_of_mem _ hT))
    simp [classBlocks, hi, hbs]

theorem relBlocks_defined (tbl : TypeTable) : ∀ s : Struct,
    (∀ T ∈ types s, (lookupType tbl T).isSome) →
    (∀ e ∈ s, ∀ k ∈ keys e.2, (lookupType tbl k.2).isSome) → (relBlocks tbl s).isSome := by
  intro s
  induction s with
  | nil => intro _ _; rfl
  | cons e rest ih =>
    intro h hk
    obtain ⟨ty, r⟩ := e
    obtain ⟨i, hi⟩ := Option.isSome_iff_exists.mp (h ty List.mem_cons_self)
    obtain ⟨bs, hbs⟩ := Option.isSome_iff_exists.mp
      (ih (fun T hT => h T (List.mem_cons_of_mem _ hT)) fun e he => hk e (List.mem_cons_of_mem _ he))
    obtain ⟨ls, hls⟩ := Option.isSome_iff_exists.mp (relLines_defined tbl i.name r (hk (ty, r) List.mem_cons_self))
    simp only [relBlocks, hi, hbs, hls]
    split <;> rfl

end Lt.Diag
