import LabtechModel.Proofs.IntrTrace
/-!
# M10: facts about `interruptedRun` (every interrupt instant `k`, every second instant `k2`)
-/
namespace Lt

variable {cfg : Config} {p : Problem}

theorem stateAt_Q (store : Store) (fuel : Nat) (sched : List Choice) (k : Nat) :
    Q cfg (stateAt cfg p store fuel sched k) :=
  (Q_walk _).stateAt (Q_init store fuel) sched k

theorem stateAt_LabOK (store : Store) (fuel : Nat) (sched : List Choice) (k : Nat) :
    LabOK cfg (stateAt cfg p store fuel sched k) :=
  (LabOK_walk _).stateAt (fun t ht => by simp [initIS, initRS] at ht) sched k

theorem handlerOutcome_cases (s : IS) (d : Bool) (hk : K s) (hl : LabOK cfg s) :
    handlerOutcome s d = .interrupted ∨ handlerOutcome s d = .waiting ∨
      (cfg.contOnFail = false ∧ ∃ t, handlerOutcome s d = .raised (.labError t)) := by
  unfold handlerOutcome
  cases hs : s.rs.status with
  | running => cases d <;> simp
  | returned r => cases d <;> simp
  | raised e =>
    cases e with
    | keyError => exact absurd hs hk.2
    | labError t => exact Or.inr (Or.inr ⟨hl t hs, t, rfl⟩)

theorem handlerOutcome_true_cases (s : IS) (hk : K s) (hl : LabOK cfg s) :
    handlerOutcome s true = .interrupted ∨
      (cfg.contOnFail = false ∧ ∃ t, handlerOutcome s true = .raised (.labError t)) := by
  rcases handlerOutcome_cases s true hk hl with h | h | h
  · exact Or.inl h
  · unfold handlerOutcome at h; split at h <;> cases h
  · exact Or.inr h

theorem handler_trace (req : List Tid) (ds : List Choice) (s : IS) (m : Nat) :
    ∃ l, (runPrims cfg p ((handlerPrims cfg p req ds s).take m) s).rs.trace = s.rs.trace ++ l ∧
      ∀ e ∈ l, evLaunch e = false :=
  (trace_ext_list _ s).imp fun _ h => ⟨h.1, h.2 (fun q hq => (members_handler req ds s q (List.mem_of_mem_take hq)).1)⟩

theorem second_trace (req : List Tid) (s : IS) :
    ∃ l, (runPrims cfg p (secondPrims cfg p req s) s).rs.trace = s.rs.trace ++ l ∧
      ∀ e ∈ l, evLaunch e = false := by
  by_cases hrun : s.rs.status = .running
  · exact (trace_ext_list _ s).imp fun _ h => ⟨h.1, h.2 (fun q hq => (members_second req s hrun q hq).1)⟩
  · rw [runPrims_stopped _ _ hrun]; exact ⟨[], by simp, fun e he => by simp at he⟩


theorem evLaunch_false (e : Ev) (h : evLaunch e = false) :
    (∀ t, e ≠ Ev.start t) ∧ (∀ t uc, e ≠ Ev.submit t uc) := by
  cases e <;> simp [evLaunch] at h ⊢

theorem interruptedRun_single (store : Store) (fuel : Nat) (sched ds : List Choice) (k : Nat)
    (hk : k < (mainOf cfg p store fuel sched).length) :
    interruptedRun cfg p store fuel sched k ds none =
      let sk := stateAt cfg p store fuel sched k
      let s1 := runPrims cfg p (handlerPrims cfg p (reqTids p) ds sk) sk
      { final := s1, outcome := handlerOutcome s1 s1.rs.futs.isEmpty, atIntr := sk, hit := true } := by
  have hk' : k < (mainStream cfg p (reqTids p) sched (initIS cfg p store fuel)).length := hk
  simp only [interruptedRun, hk', if_true]

theorem interruptedRun_double (store : Store) (fuel : Nat) (sched ds : List Choice) (k m : Nat)
    (hk : k < (mainOf cfg p store fuel sched).length)
    (hm : m < (handlerPrims cfg p (reqTids p) ds (stateAt cfg p store fuel sched k)).length) :
    interruptedRun cfg p store fuel sched k ds (some m) =
      let sk := stateAt cfg p store fuel sched k
      let s1 := runPrims cfg p ((handlerPrims cfg p (reqTids p) ds sk).take m) sk
      let s2 := runPrims cfg p (secondPrims cfg p (reqTids p) s1) s1
      { final := s2, outcome := handlerOutcome s2 true, atIntr := sk, hit := true } := by
  have hk' : k < (mainStream cfg p (reqTids p) sched (initIS cfg p store fuel)).length := hk
  have hm' : m < (handlerPrims cfg p (reqTids p) ds (runPrims cfg p
      ((mainStream cfg p (reqTids p) sched (initIS cfg p store fuel)).take k) (initIS cfg p store fuel))).length := hm
  simp only [interruptedRun, hk', if_true, hm']

theorem interruptedRun_late (store : Store) (fuel : Nat) (sched ds : List Choice) (k m : Nat)
    (hk : k < (mainOf cfg p store fuel sched).length)
    (hm : ¬ m < (handlerPrims cfg p (reqTids p) ds (stateAt cfg p store fuel sched k)).length) :
    interruptedRun cfg p store fuel sched k ds (some m) = interruptedRun cfg p store fuel sched k ds none := by
  have hk' : k < (mainStream cfg p (reqTids p) sched (initIS cfg p store fuel)).length := hk
  have hm' : ¬ m < (handlerPrims cfg p (reqTids p) ds (runPrims cfg p
      ((mainStream cfg p (reqTids p) sched (initIS cfg p store fuel)).take k) (initIS cfg p store fuel))).length := hm
  simp only [interruptedRun, hk', if_true, hm', if_false]

/-- the final state and the state at the interrupt of `interruptedRun` are among the states of `stateAt`,
    `handlerStateAt`, `secondStateAt` -/
theorem interruptedRun_cases (store : Store) (fuel : Nat) (sched ds : List Choice) (k : Nat) (k2 : Option Nat) :
    (∃ k', (interruptedRun cfg p store fuel sched k ds k2).atIntr = stateAt cfg p store fuel sched k') ∧
    ((∃ k', (interruptedRun cfg p store fuel sched k ds k2).final = stateAt cfg p store fuel sched k') ∨
     (∃ m, (interruptedRun cfg p store fuel sched k ds k2).final = handlerStateAt cfg p store fuel sched k ds m) ∨
     (∃ m m2, (interruptedRun cfg p store fuel sched k ds k2).final
        = secondStateAt cfg p store fuel sched k ds m m2)) := by
  by_cases hk : k < (mainOf cfg p store fuel sched).length
  · have single := interruptedRun_single store fuel sched ds k hk
    cases k2 with
    | none =>
      rw [single]
      exact ⟨⟨k, rfl⟩, Or.inr (Or.inl ⟨_, by simp only [handlerStateAt]; rw [List.take_length]⟩)⟩
    | some m =>
      by_cases hm : m < (handlerPrims cfg p (reqTids p) ds (stateAt cfg p store fuel sched k)).length
      · rw [interruptedRun_double store fuel sched ds k m hk hm]
        exact ⟨⟨k, rfl⟩, Or.inr (Or.inr ⟨m, _, by simp only [secondStateAt, handlerStateAt]; rw [List.take_length]⟩)⟩
      · rw [interruptedRun_late store fuel sched ds k m hk hm, single]
        exact ⟨⟨k, rfl⟩, Or.inr (Or.inl ⟨_, by simp only [handlerStateAt]; rw [List.take_length]⟩)⟩
  · have hfin : runPrims cfg p (mainOf cfg p store fuel sched) (initIS cfg p store fuel)
        = stateAt cfg p store fuel sched k := by
      simp only [stateAt]
      rw [List.take_of_length_le (Nat.le_of_not_lt hk)]
    have hk' : ¬ k < (mainStream cfg p (reqTids p) sched (initIS cfg p store fuel)).length := hk
    simp only [interruptedRun, hk', if_false]
    exact ⟨⟨k, hfin⟩, Or.inl ⟨k, hfin⟩⟩

/-- the state at the interrupt and the final state of `interruptedRun` are instants of the run -/
theorem interruptedRun_instant (store : Store) (fuel : Nat) (sched ds : List Choice) (k : Nat) (k2 : Option Nat) :
    Instant cfg p store fuel (interruptedRun cfg p store fuel sched k ds k2).atIntr ∧
    Instant cfg p store fuel (interruptedRun cfg p store fuel sched k ds k2).final := by
  obtain ⟨⟨k', h1⟩, h2⟩ := interruptedRun_cases (cfg := cfg) (p := p) store fuel sched ds k k2
  refine ⟨h1 ▸ .main sched k', ?_⟩
  rcases h2 with ⟨k'', h2⟩ | ⟨m, h2⟩ | ⟨m, m2, h2⟩ <;> rw [h2]
  · exact .main sched k''
  · exact .handler sched k ds m
  · exact .second sched k ds m m2

end Lt
