import LabtechModel.Model.Run
/-!
# The coordinator loop step by step

What `start_task`, `complete_task`, `submit_task`, `_start_processes`, one handled yield and the two `wait`s
compute, and the inductions along the submit phase, along the yields of one wait and along the loop.
`StepInv`: a state predicate that survives each of these steps holds at every loop head.
-/
namespace Lt

theorem setRemove_some (l l' : List Nat) (x : Nat) (h : setRemove l x = some l') :
    x ∈ l ∧ l' = l.filter (· ≠ x) := by
  simp only [setRemove] at h
  split at h
  · next hx => exact ⟨hx, (Option.some.inj h).symm⟩
  · cases h

/-- the scheduler dictionaries after `start_task t` -/
abbrev startedTS (s : TS) (t : Tid) : TS :=
  { s with pending := s.pending.filter (· ≠ t), active := s.active ++ [t] }

theorem startTask_eq (s : TS) (t : Tid) (h : t ∈ s.pending) : startTask s t = some (startedTS s t) := by
  simp [startTask, setRemove, h]

theorem startTask_some (s s' : TS) (t : Tid) (h : startTask s t = some s') :
    t ∈ s.pending ∧ s' = startedTS s t := by
  have ht : t ∈ s.pending := by
    apply Classical.byContradiction
    intro hn
    simp [startTask, setRemove, hn] at h
  rw [startTask_eq s t ht] at h
  exact ⟨ht, (Option.some.inj h).symm⟩

theorem completeTask_some (s s' : TS) (t : Tid) (rem : List Tid)
    (h : completeTask s t = some (s', rem)) :
    ∃ act pd pdt rem0, setRemove s.active t = some act ∧
      unblock t (s.pendDependents t) s.pendDeps = some pd ∧
      release t (s.ddeps t) s.pendDependents = some (pdt, rem0) ∧
      s' = { s with active := act, pendDeps := pd, pendDependents := pdt } ∧
      rem = (if (pdt t).isEmpty then rem0 ++ [t] else rem0) := by
  unfold completeTask at h
  split at h
  · cases h
  · next act hact =>
    split at h
    · cases h
    · next pd hpd =>
      split at h
      · cases h
      · next pdt rem0 hrel =>
        simp only [Option.some.injEq, Prod.mk.injEq] at h
        exact ⟨act, pd, pdt, rem0, hact, hpd, hrel, h.1.symm, h.2.symm⟩

theorem completeTask_active (s s' : TS) (t : Tid) (rem : List Tid)
    (h : completeTask s t = some (s', rem)) : s'.active = s.active.filter (· ≠ t) := by
  obtain ⟨act, pd, pdt, rem0, hact, _, _, hs, _⟩ := completeTask_some s s' t rem h
  subst hs
  exact (setRemove_some _ _ _ hact).2

section
variable (cfg : Config) (p : Problem) (req : List Tid)

theorem startProcesses_ts (rs : RS) : (startProcesses cfg rs).ts = rs.ts := by
  simp [startProcesses]

theorem startProcesses_status (rs : RS) : (startProcesses cfg rs).status = rs.status := by
  simp [startProcesses]

theorem startProcesses_futs (rs : RS) : (startProcesses cfg rs).futs = rs.futs := by
  simp [startProcesses]

/-- the job `submit_task` creates -/
abbrev newJob (cfg : Config) (p : Problem) (rs : RS) (t : Tid) : Job :=
  { tid := t, useCache := useCache cfg p rs.store t,
    snap := if cfg.backend = .spawn
            then some (rs.results.filter (fun kv => kv.1 ∈ rs.ts.ddeps t)) else none }

/-- the bookkeeping part of `submit_task` -/
abbrev subBase (rs : RS) (t : Tid) (j : Job) (uc : Bool) : RS :=
  { rs with queued := rs.queued ++ [j], futs := rs.futs ++ [t], trace := rs.trace ++ [Ev.submit t uc] }

theorem submitTask_ts (rs : RS) (t : Tid) :
    (submitTask cfg p rs t).ts = rs.ts := by
  simp only [submitTask]
  split <;> simp [startProcesses_ts]

theorem submitTask_status (rs : RS) (t : Tid) :
    (submitTask cfg p rs t).status = rs.status := by
  simp only [submitTask]; split <;> simp [startProcesses_status]

theorem processYield_frame (rs : RS) (t : Tid) (o : Outcome) :
    (processYield cfg req rs t o).queued = rs.queued ∧ (processYield cfg req rs t o).running = rs.running ∧
    (processYield cfg req rs t o).futs = rs.futs ∧ (processYield cfg req rs t o).store = rs.store := by
  cases o <;> simp only [processYield] <;> split <;> exact ⟨rfl, rfl, rfl, rfl⟩

theorem processYield_queued (rs : RS) (t : Tid) (o : Outcome) :
    (processYield cfg req rs t o).queued = rs.queued := (processYield_frame cfg req rs t o).1

theorem processYield_running (rs : RS) (t : Tid) (o : Outcome) :
    (processYield cfg req rs t o).running = rs.running := (processYield_frame cfg req rs t o).2.1

theorem processYield_store (rs : RS) (t : Tid) (o : Outcome) :
    (processYield cfg req rs t o).store = rs.store := (processYield_frame cfg req rs t o).2.2.2

theorem processYield_ts (rs : RS) (t : Tid) (o : Outcome) :
    (processYield cfg req rs t o).ts = rs.ts ∨
    ∃ s' rem, completeTask rs.ts t = some (s', rem) ∧ (processYield cfg req rs t o).ts = s' := by
  simp only [processYield]
  cases o <;> (simp only; cases hc : completeTask rs.ts t with
    | none => left; rfl
    | some r => right; exact ⟨r.1, r.2, rfl, rfl⟩)

/-- handling one outcome appends the yield, then at most a `remove_results` record -/
theorem processYield_trace (rs : RS) (t : Tid) (o : Outcome) :
    ∃ tail, (processYield cfg req rs t o).trace = rs.trace ++ Ev.yield t o :: tail ∧
      ∀ e ∈ tail, ∃ a b, e = Ev.remove a b := by
  have one : ∀ (a b : List Tid), ∃ tail,
      rs.trace ++ [Ev.yield t o] ++ [Ev.remove a b] = rs.trace ++ Ev.yield t o :: tail ∧
      ∀ e ∈ tail, ∃ a b, e = Ev.remove a b :=
    fun a b => ⟨[Ev.remove a b], List.append_assoc _ _ _, fun e he => ⟨a, b, List.mem_singleton.mp he⟩⟩
  have none : ∃ tail, rs.trace ++ [Ev.yield t o] = rs.trace ++ Ev.yield t o :: tail ∧
      ∀ e ∈ tail, ∃ a b, e = Ev.remove a b := ⟨[], rfl, fun _ he => nomatch he⟩
  have fail : ∀ (a b : List Tid), ∃ tail,
      (if cfg.contOnFail = true then rs.trace ++ [Ev.yield t o] ++ [Ev.remove a b] else rs.trace ++ [Ev.yield t o])
        = rs.trace ++ Ev.yield t o :: tail ∧ ∀ e ∈ tail, ∃ a b, e = Ev.remove a b := by
    intro a b; split
    · exact one a b
    · exact none
  cases o <;> dsimp only [processYield] <;> rcases completeTask _ t with _ | ⟨s', rem⟩
  · exact none
  · exact one _ _
  · exact none
  · exact fail _ _
  · exact none
  · exact fail _ _

/-- the events a serial wait appends before the outcome is handled -/
def serialEvs (p : Problem) (rs : RS) (j : Job) : List Ev :=
  [Ev.waitEnter (rs.queued.map Job.tid) [], Ev.start j.tid] ++
    runEvents p rs.ts { j with snap := some rs.results }

/-- serial wait: the state after the head job `j` ran, right before its outcome is handled, with
    its future still tracked -/
def serialPre (p : Problem) (rs : RS) (j : Job) (rest : List Job) : RS :=
  { rs with queued := rest,
            store := saveIfRan p rs.store { j with snap := some rs.results }
              (runOutcome p rs.ts rs.store { j with snap := some rs.results }),
            trace := rs.trace ++ [Ev.waitEnter (rs.queued.map Job.tid) []] ++
              [Ev.start j.tid] ++ runEvents p rs.ts { j with snap := some rs.results } }

theorem serialPre_trace (rs : RS) (j : Job) (rest : List Job) :
    (serialPre p rs j rest).trace = rs.trace ++ serialEvs p rs j := by
  simp [serialPre, serialEvs]

theorem waitSerial_nil (rs : RS) (hq : rs.queued = []) :
    waitSerial cfg p req rs = { rs with trace := rs.trace ++ [Ev.waitEnter (rs.queued.map Job.tid) []] } := by
  simp only [waitSerial]
  split
  · rfl
  · next j' rest' h => rw [hq] at h; cases h

theorem waitSerial_cons (rs : RS) (j : Job) (rest : List Job)
    (hq : rs.queued = j :: rest) :
    waitSerial cfg p req rs =
      processYield cfg req { serialPre p rs j rest with futs := (serialPre p rs j rest).futs.filter (· ≠ j.tid) }
        j.tid (runOutcome p rs.ts rs.store { j with snap := some rs.results }) := by
  simp only [waitSerial]
  split
  · next h => rw [hq] at h; cases h
  · next j' rest' h =>
    rw [hq] at h
    cases h
    rfl

/-- the workers whose outcome becomes visible in this wait / the ones that keep running -/
def finJobs (c : Choice) (rs : RS) : List Job :=
  ((enumFrom 0 rs.running).filter (fun ij => c.finish ij.1)).map (·.2)
def stayJobs (c : Choice) (rs : RS) : List Job :=
  ((enumFrom 0 rs.running).filter (fun ij => !c.finish ij.1)).map (·.2)

/-- the events a process wait appends before `_start_processes` and the yields -/
def procEvs (p : Problem) (c : Choice) (rs : RS) : List Ev :=
  [Ev.waitEnter (rs.queued.map Job.tid) (rs.running.map Job.tid)] ++
    ((finJobs c rs).map (jobEvents p rs.ts)).flatten

/-- process wait: the state after the finished workers were reaped and their results saved, with
    their futures still tracked -/
def procPre (p : Problem) (c : Choice) (rs : RS) : RS :=
  { rs with running := stayJobs c rs, store := saveAll p rs.ts (finJobs c rs) rs.store,
            trace := rs.trace ++ [Ev.waitEnter (rs.queued.map Job.tid) (rs.running.map Job.tid)] ++
              ((finJobs c rs).map (jobEvents p rs.ts)).flatten }

def procOutcomes (p : Problem) (c : Choice) (rs : RS) : List (Tid × Outcome) :=
  (finJobs c rs).map (fun j => (j.tid, jobOutcome p rs.ts rs.store j))

/-- the yields of the wait, in `future_to_task` order -/
def procYs (p : Problem) (c : Choice) (rs : RS) : List (Tid × Outcome) :=
  rs.futs.filterMap (fun t => (procOutcomes p c rs).find? (·.1 = t))

theorem procPre_trace (c : Choice) (rs : RS) :
    (procPre p c rs).trace = rs.trace ++ procEvs p c rs := by
  simp [procPre, procEvs]

theorem waitProcess_procPre (c : Choice) (rs : RS) :
    waitProcess cfg p req c rs
      = processYields cfg req (procYs p c rs) (startProcesses cfg (procPre p c rs)) := by
  show processYields cfg req ((startProcesses cfg (procPre p c rs)).futs.filterMap
      (fun t => (procOutcomes p c rs).find? (·.1 = t))) (startProcesses cfg (procPre p c rs)) = _
  rw [startProcesses_futs]
  rfl

end

variable {cfg : Config} {p : Problem} {req : List Tid}

theorem submitAll_ind (I : RS → Prop)
    (hstep : ∀ rs t s', startTask rs.ts t = some s' → I rs → I (submitTask cfg p { rs with ts := s' } t))
    (hkey : ∀ rs, I rs → I { rs with status := .raised .keyError }) :
    ∀ (l : List Tid) (rs : RS), I rs → I (submitAll cfg p l rs) := by
  intro l
  induction l with
  | nil => intro rs h; exact h
  | cons t ts ih =>
    intro rs h
    simp only [submitAll]
    split
    · exact hkey rs h
    · next s' hs => exact ih _ (hstep rs t s' hs h)

/-- the yields of one wait, for a property that may speak of the yields still to come; the loop
    stops early when the status is no longer `running` -/
theorem processYields_ind (I : List (Tid × Outcome) → RS → Prop)
    (hstep : ∀ t o rest rs, rs.status = .running → I ((t, o) :: rest) rs →
      I rest (processYield cfg req { rs with futs := rs.futs.filter (· ≠ t) } t o))
    (hstop : ∀ ys rs, rs.status ≠ .running → I ys rs → I [] rs) :
    ∀ (ys : List (Tid × Outcome)) (rs : RS), I ys rs → I [] (processYields cfg req ys rs) := by
  intro ys
  induction ys with
  | nil => intro rs h; exact h
  | cons y rest ih =>
    intro rs h
    obtain ⟨t, o⟩ := y
    simp only [processYields]
    split
    · next hrun => exact ih _ (hstep t o rest rs hrun h)
    · next hnr => exact hstop _ rs (fun h' => hnr h') h

theorem processYields_const (I : RS → Prop)
    (hstep : ∀ rs t o, I rs → I (processYield cfg req { rs with futs := rs.futs.filter (· ≠ t) } t o))
    (ys : List (Tid × Outcome)) (rs : RS) (h : I rs) : I (processYields cfg req ys rs) :=
  processYields_ind (fun _ => I) (fun t o _ rs _ => hstep rs t o) (fun _ _ _ h => h) ys rs h

theorem runLoop_ind (I : RS → Prop)
    (hiter : ∀ c rs, rs.status = .running → loopCond rs = true → I rs → I (iteration cfg p req c rs)) :
    ∀ (sched : List Choice) (rs : RS), I rs → I (runLoop cfg p req sched rs) := by
  intro sched
  induction sched with
  | nil => intro rs h; exact h
  | cons c cs ih =>
    intro rs h
    simp only [runLoop]
    split
    · next hrun =>
      split
      · next hlc => exact ih _ (hiter c rs hrun hlc h)
      · exact h
    · exact h

/-- `I` survives every step the loop is made of: the submit phase, the serial runner's wait up to
    the handling of the outcome (`idle`: nothing queued), a process runner's wait up to the yields,
    and one handled yield -/
structure StepInv (cfg : Config) (p : Problem) (req : List Tid) (I : RS → Prop) : Prop where
  submit : ∀ rs, I rs → I (submitAll cfg p (readyTasks p rs.ts) rs)
  idle : cfg.backend = .serial → ∀ rs, I rs →
    I { rs with trace := rs.trace ++ [Ev.waitEnter (rs.queued.map Job.tid) []] }
  serial : cfg.backend = .serial → ∀ rs j rest, rs.queued = j :: rest → I rs → I (serialPre p rs j rest)
  proc : cfg.backend ≠ .serial → ∀ c rs, I rs → I (startProcesses cfg (procPre p c rs))
  yield : ∀ rs t o, I rs → I (processYield cfg req { rs with futs := rs.futs.filter (· ≠ t) } t o)

theorem StepInv.waitSerial {I : RS → Prop}
    (h : StepInv cfg p req I) (hb : cfg.backend = .serial) (rs : RS) (hI : I rs) :
    I (waitSerial cfg p req rs) := by
  cases hq : rs.queued with
  | nil => rw [waitSerial_nil cfg p req rs hq]; exact h.idle hb rs hI
  | cons j rest => rw [waitSerial_cons cfg p req rs j rest hq]; exact h.yield _ _ _ (h.serial hb rs j rest hq hI)

theorem StepInv.waitProcess {I : RS → Prop}
    (h : StepInv cfg p req I) (hb : cfg.backend ≠ .serial) (c : Choice) (rs : RS) (hI : I rs) :
    I (waitProcess cfg p req c rs) := by
  rw [waitProcess_procPre]
  exact processYields_const I h.yield _ _ (h.proc hb c rs hI)

theorem StepInv.iteration {I : RS → Prop}
    (h : StepInv cfg p req I) (c : Choice) (rs : RS) (hI : I rs) : I (iteration cfg p req c rs) := by
  simp only [Lt.iteration]
  split
  · split
    · next hb => exact h.waitSerial hb _ (h.submit rs hI)
    · next hb => exact h.waitProcess hb c _ (h.submit rs hI)
  · exact h.submit rs hI

theorem StepInv.runLoop {I : RS → Prop}
    (h : StepInv cfg p req I) (sched : List Choice) (rs : RS) (hI : I rs) :
    I (runLoop cfg p req sched rs) :=
  runLoop_ind I (fun c rs _ _ => h.iteration c rs) sched rs hI

end Lt
