import LabtechModel.Proofs.InvYield
import LabtechModel.Proofs.InvPlan
/-!
# The master invariant holds in every reachable state of the coordinator loop
-/
namespace Lt
variable {cfg : Config} {p : Problem} {P : TS}

/-- the invariant of loop-head (and submit-phase) states -/
def Reach (cfg : Config) (p : Problem) (P : TS) (rs : RS) : Prop :=
  Core p P rs ∧ (rs.status = .running → Exec cfg P [] rs)

theorem processYields_inv (req : List Tid) (hP : PI P)
    (ys : List (Tid × Outcome)) (rs : RS) (hc : Core p P rs)
    (he : rs.status = .running → Exec cfg P (ys.map Prod.fst) rs) :
    Reach cfg p P (processYields cfg req ys rs) :=
  processYields_ind
    (fun ys rs => Core p P rs ∧ (rs.status = .running → Exec cfg P (ys.map Prod.fst) rs))
    (fun _ o rest _ hrun h =>
      let ⟨hc', he', _⟩ := yieldStep_inv (extra := rest.map Prod.fst) req o hP h.1 (h.2 hrun) hrun
      ⟨hc', he'⟩)
    (fun _ _ hnr h => ⟨h.1, fun hrun => absurd hrun hnr⟩) ys rs ⟨hc, he⟩

theorem repr0_eq (s P : TS) (h : s.instances = P.instances) (t : Tid) : repr0 s t = repr0 P t := by
  simp only [repr0, h]

theorem runEvents_cases (p : Problem) (ts : TS) (j : Job) (e : Ev) (he : e ∈ runEvents p ts j) :
    e = Ev.load j.tid ∨ e = Ev.exec j.tid (reads p (repr0 ts j.tid) (j.snap.getD [])) := by
  simp only [runEvents] at he
  split at he
  · left; simpa using he
  · right; simpa using he

theorem jobEvents_subset (p : Problem) (ts : TS) (j : Job) (e : Ev) (he : e ∈ jobEvents p ts j) :
    e ∈ runEvents p ts j := by
  simp only [jobEvents] at he
  split at he
  · simp at he
  · exact he

theorem jobEvents_cases (p : Problem) (ts : TS) (j : Job) (e : Ev) (he : e ∈ jobEvents p ts j) :
    e = Ev.load j.tid ∨ e = Ev.exec j.tid (reads p (repr0 ts j.tid) (j.snap.getD [])) :=
  runEvents_cases p ts j e (jobEvents_subset p ts j e he)

theorem ranOf_append (a b : List Ev) : ranOf (a ++ b) = ranOf a ++ ranOf b := by
  simp [ranOf, List.filterMap_append]

theorem ranOf_runEvents (p : Problem) (ts : TS) (j : Job) : ranOf (runEvents p ts j) = [j.tid] := by
  simp only [runEvents]
  split <;> simp [ranOf, evRan]

theorem ranOf_jobEvents (p : Problem) (ts : TS) (j : Job) :
    ranOf (jobEvents p ts j) = if p.dies j.tid then [] else [j.tid] := by
  simp only [jobEvents]
  split
  · rfl
  · exact ranOf_runEvents p ts j

theorem ranOf_flatten_sublist (p : Problem) (ts : TS) : ∀ (js : List Job),
    (ranOf ((js.map (jobEvents p ts)).flatten)).Sublist (js.map Job.tid) := by
  intro js
  induction js with
  | nil => simp [ranOf]
  | cons j js ih =>
    simp only [List.map_cons, List.flatten_cons, ranOf_append, ranOf_jobEvents]
    split
    · simpa using ih.cons j.tid
    · simpa using ih.cons_cons j.tid

theorem serialEvs_quiet (p : Problem) (rs : RS) (j : Job) : Quiet (serialEvs p rs j) := by
  intro e he'
  simp only [serialEvs, List.mem_append, List.mem_cons, List.not_mem_nil, or_false] at he'
  rcases he' with (h | h) | h
  · subst h; exact ⟨rfl, rfl⟩
  · subst h; exact ⟨rfl, rfl⟩
  · rcases runEvents_cases _ _ _ _ h with h' | h' <;> subst h' <;> exact ⟨rfl, rfl⟩

theorem ranOf_serialEvs (p : Problem) (rs : RS) (j : Job) : ranOf (serialEvs p rs j) = [j.tid] := by
  simp only [serialEvs, ranOf_append, ranOf_runEvents]
  simp [ranOf, evRan]

/-- the worker records of an active task's job that saw a good snapshot are in order -/
theorem EvOK_runEvents {rs : RS} (hc : Core p P rs) (j : Job) (hjA : j.tid ∈ rs.ts.active)
    (snap : List (Tid × Val)) (hs : j.snap = some snap) (hsn : SnapOK P rs.trace snap j.tid) :
    ∀ e ∈ runEvents p rs.ts j, EvOK p P rs.trace e := by
  intro e he
  rcases runEvents_cases _ _ _ _ he with rfl | rfl
  · trivial
  · refine ⟨hc.ts.actDeps _ hjA, snap, ?_, hsn⟩
    rw [hs, Option.getD_some, repr0_eq _ _ hc.ts.inst]

/-- a wait up to its yields: the jobs `fin` leave the executor with their futures still tracked, the
    trace grows by the quiet records `l` of their execution -/
theorem preWait_inv {rs rs' : RS} (hc : Core p P rs)
    (he : Exec cfg P [] rs) (fin : List Job) (l : List Ev)
    (hts : rs'.ts = rs.ts) (hf : rs'.futs = rs.futs) (hst : rs'.status = rs.status)
    (hres : rs'.results = rs.results) (htr : rs'.trace = rs.trace ++ l) (hq : Quiet l)
    (hev : ∀ e ∈ l, EvOK p P rs.trace e) (hran : (ranOf l).Sublist (fin.map Job.tid))
    (hperm : ((rs'.queued ++ rs'.running) ++ fin).Perm (rs.queued ++ rs.running))
    (hqu : ∀ j ∈ rs'.queued, j ∈ rs.queued) (hru : ∀ j ∈ rs'.running, j ∈ rs.running)
    (hser : cfg.backend = .serial → rs'.running = []) :
    Core p P rs' ∧ Exec cfg P (fin.map Job.tid) rs' := by
  have hfinA : ∀ t ∈ fin.map Job.tid, t ∈ rs.ts.active := by
    intro t ht
    obtain ⟨j, hj, rfl⟩ := List.mem_map.mp ht
    exact he.job_active hc j (hperm.mem_iff.mp (List.mem_append_right _ hj))
  have hpermT : ((rs'.queued ++ rs'.running).map Job.tid ++ fin.map Job.tid).Perm rs.futs := by
    rw [← List.map_append]
    exact (hperm.map Job.tid).trans (by simpa using he.perm)
  have hranl : ranOf rs'.trace = ranOf rs.trace ++ ranOf l := by rw [htr, ranOf_append]
  refine ⟨Core.quiet hc l hts hf hst htr hq (by rw [htr]; exact hc.hist.append_quiet hq hev) ?_, ?_⟩
  · rw [hranl, List.nodup_append]
    refine ⟨hc.ranNd, hran.nodup (List.nodup_append.mp (hpermT.nodup_iff.mpr hc.ndF)).2.1, ?_⟩
    intro a ha b hb hab
    subst hab
    rcases he.ranSub _ ha with h | h
    · exact hc.ts.disjAY _ (hfinA _ (hran.subset hb)) h
    · simp at h
  · exact {
      perm := hf ▸ hpermT
      res := by intro d v; rw [hres, htr, mem_yield_append_quiet _ _ hq, hts]; exact he.res d v
      resNd := by rw [hres]; exact he.resNd
      snapOK := by
        intro j hj snap hs
        rw [htr, SnapOK_quiet _ _ _ hq]
        exact he.snapOK j (hperm.mem_iff.mp (List.mem_append_left _ hj)) snap hs
      runSnap := fun j hj => he.runSnap j (hru j hj)
      spawnSnap := fun hsp j hj => he.spawnSnap hsp j (hqu j hj)
      serialRun := hser
      ranSub := by
        intro t ht
        rw [hranl] at ht
        rw [yielded, htr, yieldedOf_append_quiet _ _ hq]
        rcases List.mem_append.mp ht with h | h
        · exact (he.ranSub t h).imp id (fun h' => by simp at h')
        · exact Or.inr (hran.subset h) }

theorem serialPre_inv (hP : PI P)
    {rs : RS} (hc : Core p P rs) (he : Exec cfg P [] rs) (j : Job) (rest : List Job)
    (hq : rs.queued = j :: rest) :
    Core p P (serialPre p rs j rest) ∧ Exec cfg P [j.tid] (serialPre p rs j rest) := by
  have hjA : j.tid ∈ rs.ts.active := he.job_active hc j (by rw [hq]; simp)
  have hdeps : ∀ d ∈ P.ddeps j.tid, d ∈ yieldedOf rs.trace := hc.ts.actDeps _ hjA
  refine preWait_inv (rs' := serialPre p rs j rest) hc he [j] (serialEvs p rs j) rfl rfl rfl rfl (serialPre_trace p rs j rest)
    (serialEvs_quiet p rs j) ?_ ?_ ?_ ?_ (fun _ h => h) he.serialRun
  · intro e hel
    simp only [serialEvs, List.mem_append, List.mem_cons, List.not_mem_nil, or_false] at hel
    rcases hel with (h | h) | h
    · subst h; trivial
    · subst h; exact hdeps
    · exact EvOK_runEvents hc { j with snap := some rs.results } hjA rs.results rfl
        (results_snapOK hP hc he j.tid (hc.ts.disjAY _ hjA)) e h
  · rw [ranOf_serialEvs]; exact List.Sublist.refl _
  · show ((rest ++ rs.running) ++ [j]).Perm (rs.queued ++ rs.running)
    rw [hq]
    exact List.perm_append_comm
  · intro j' hj'; rw [hq]; exact List.mem_cons_of_mem _ hj'

theorem waitSerial_inv (req : List Tid) (hP : PI P)
    {rs : RS} (hc : Core p P rs) (he : Exec cfg P [] rs) (hrun : rs.status = .running) :
    Reach cfg p P (waitSerial cfg p req rs) := by
  cases hq : rs.queued with
  | nil =>
    rw [waitSerial_nil cfg p req rs hq]
    have hquiet := quiet_waitEnter (rs.queued.map Job.tid) []
    obtain ⟨h1, h2⟩ := preWait_inv (rs' := { rs with trace := rs.trace ++ [Ev.waitEnter (rs.queued.map Job.tid) []] })
      hc he [] _ rfl rfl rfl rfl rfl hquiet
      (by intro e he'; simp only [List.mem_singleton] at he'; subst he'; trivial)
      (List.Sublist.refl _) (by simp) (fun _ h => h) (fun _ h => h) he.serialRun
    exact ⟨h1, fun _ => h2⟩
  | cons j rest =>
    rw [waitSerial_cons cfg p req rs j rest hq]
    obtain ⟨hcA, heA⟩ := serialPre_inv hP hc he j rest hq
    obtain ⟨h1, h2, _⟩ := yieldStep_inv (extra := []) req
      (runOutcome p rs.ts rs.store { j with snap := some rs.results }) hP hcA heA hrun
    exact ⟨h1, h2⟩

/-- the yields of one wait are the finished workers' tasks, each once -/
theorem ys_perm (F : List Tid) (O : List (Tid × Outcome)) (hF : F.Nodup) (hO : (O.map Prod.fst).Nodup)
    (hsub : ∀ t ∈ O.map Prod.fst, t ∈ F) :
    ((F.filterMap (fun t => O.find? (·.1 = t))).map Prod.fst).Perm (O.map Prod.fst) := by
  have h1 : (F.filterMap (fun t => O.find? (·.1 = t))).map Prod.fst = F.filter (· ∈ O.map Prod.fst) := by
    clear hF hsub
    induction F with
    | nil => rfl
    | cons t F ih =>
      simp only [List.filterMap_cons, List.filter_cons]
      cases hf : O.find? (·.1 = t) with
      | none =>
        have : t ∉ O.map Prod.fst := by
          rw [List.find?_eq_none] at hf
          intro hmem
          obtain ⟨y, hy, hyt⟩ := List.mem_map.mp hmem
          exact hf y hy (by simpa using hyt)
        simp only [this, decide_false, Bool.false_eq_true, if_false]
        exact ih
      | some y =>
        have h1 := List.find?_some hf
        have h2 : y ∈ O := List.mem_of_find?_eq_some hf
        have h3 : y.1 = t := by simpa using h1
        have : t ∈ O.map Prod.fst := List.mem_map.mpr ⟨y, h2, h3⟩
        simp only [this, decide_true, if_true, List.map_cons, h3, ih]
  rw [h1]
  exact filter_mem_perm F _ hF hO hsub

theorem startProcesses_yielded (cfg : Config) (rs : RS) : yielded (startProcesses cfg rs) = yielded rs := by
  obtain ⟨go, stay, _, hsp⟩ := startProcesses_shape cfg rs
  rw [hsp]
  exact yieldedOf_append_quiet _ _ (quiet_starts _)

theorem procEvs_quiet (p : Problem) (c : Choice) (rs : RS) : Quiet (procEvs p c rs) := by
  intro e he'
  simp only [procEvs, List.mem_append, List.mem_singleton] at he'
  rcases he' with h | h
  · subst h; exact ⟨rfl, rfl⟩
  · obtain ⟨es, hes, hmem⟩ := List.mem_flatten.mp h
    obtain ⟨j, _, rfl⟩ := List.mem_map.mp hes
    rcases jobEvents_cases _ _ _ _ hmem with h' | h' <;> subst h' <;> exact ⟨rfl, rfl⟩

theorem finJobs_mem (c : Choice) (rs : RS) : ∀ j ∈ finJobs c rs, j ∈ rs.running :=
  fun _ hj => (enum_filter_sublist rs.running _).subset hj

theorem stayJobs_mem (c : Choice) (rs : RS) : ∀ j ∈ stayJobs c rs, j ∈ rs.running :=
  fun _ hj => (enum_filter_sublist rs.running _).subset hj

/-- a process runner's wait = deliver the finished workers' outcomes (`procYs`, one per finished
    worker) from `_start_processes` of a state (`procPre`) that satisfies the invariant with those
    futures still tracked -/
theorem waitProcess_explicit (req : List Tid) (c : Choice)
    (hb : cfg.backend ≠ .serial) {rs : RS} (hc : Core p P rs) (he : Exec cfg P [] rs) :
    waitProcess cfg p req c rs
      = processYields cfg req (procYs p c rs) (startProcesses cfg (procPre p c rs)) ∧
    Core p P (procPre p c rs) ∧ Exec cfg P ((finJobs c rs).map Job.tid) (procPre p c rs) ∧
    ((procYs p c rs).map Prod.fst).Perm ((finJobs c rs).map Job.tid) ∧
    ((finJobs c rs).map Job.tid).Nodup := by
  have hfinA : ∀ j ∈ finJobs c rs, j.tid ∈ rs.ts.active := fun j hj =>
    he.job_active hc j (List.mem_append_right _ (finJobs_mem c rs j hj))
  obtain ⟨hcA, heA⟩ := preWait_inv (rs' := procPre p c rs) hc he (finJobs c rs) (procEvs p c rs) rfl rfl rfl rfl
    (procPre_trace p c rs) (procEvs_quiet p c rs)
    (by
      intro e hel
      simp only [procEvs, List.mem_append, List.mem_singleton] at hel
      rcases hel with h | h
      · subst h; trivial
      · obtain ⟨es, hes, hmem⟩ := List.mem_flatten.mp h
        obtain ⟨j, hj, rfl⟩ := List.mem_map.mp hes
        have hjr := finJobs_mem c rs j hj
        cases hs : j.snap with
        | none => exact absurd hs (he.runSnap j hjr)
        | some snap =>
          exact EvOK_runEvents hc j (hfinA j hj) snap hs (he.snapOK j (List.mem_append_right _ hjr) snap hs) e
            (jobEvents_subset _ _ _ _ hmem))
    (by
      have : ranOf (procEvs p c rs) = ranOf (((finJobs c rs).map (jobEvents p rs.ts)).flatten) := by
        rw [procEvs, ranOf_append]; rfl
      rw [this]
      exact ranOf_flatten_sublist p rs.ts _)
    (by
      show ((rs.queued ++ stayJobs c rs) ++ finJobs c rs).Perm (rs.queued ++ rs.running)
      rw [List.append_assoc]
      exact (List.perm_append_comm.trans (enum_partition_perm rs.running c.finish)).append_left rs.queued)
    (fun _ h => h) (stayJobs_mem c rs) (fun h => absurd h hb)
  have hfinNd : ((finJobs c rs).map Job.tid).Nodup :=
    (List.nodup_append.mp (heA.perm.nodup_iff.mpr hc.ndF)).2.1
  have hOfst : (procOutcomes p c rs).map Prod.fst = (finJobs c rs).map Job.tid := by
    simp only [procOutcomes, List.map_map]
    rfl
  have hperm := ys_perm rs.futs (procOutcomes p c rs) hc.ndF (by rw [hOfst]; exact hfinNd) (by
    intro t ht
    rw [hOfst] at ht
    obtain ⟨j, hj, rfl⟩ := List.mem_map.mp ht
    exact (hc.futsAct _).mpr (hfinA j hj))
  rw [hOfst] at hperm
  exact ⟨waitProcess_procPre cfg p req c rs, hcA, heA, hperm, hfinNd⟩

theorem waitProcess_decomp (req : List Tid) (c : Choice) (hP : PI P)
    (hb : cfg.backend ≠ .serial) {rs : RS} (hc : Core p P rs) (he : Exec cfg P [] rs) :
    ∃ rsB ys, waitProcess cfg p req c rs = processYields cfg req ys rsB ∧ Core p P rsB ∧
      Exec cfg P (ys.map Prod.fst) rsB ∧ yielded rsB = yielded rs ∧ rsB.status = rs.status ∧
      (ys.map Prod.fst).Perm ((finJobs c rs).map Job.tid) := by
  obtain ⟨hwp, hcA, heA, hperm, _⟩ := waitProcess_explicit req c hb hc he
  obtain ⟨hcB, heB⟩ := startProcesses_inv hP hb hcA heA
  refine ⟨_, _, hwp, hcB, heB.perm_extra hperm.symm, ?_, ?_, hperm⟩
  · rw [startProcesses_yielded]
    show yieldedOf (procPre p c rs).trace = yielded rs
    rw [procPre_trace, yieldedOf_append_quiet _ _ (procEvs_quiet p c rs)]
    rfl
  · rw [startProcesses_status]; rfl

theorem waitProcess_inv (req : List Tid) (c : Choice) (hP : PI P)
    (hb : cfg.backend ≠ .serial) {rs : RS} (hc : Core p P rs) (he : Exec cfg P [] rs) :
    Reach cfg p P (waitProcess cfg p req c rs) := by
  obtain ⟨rsB, ys, hwp, hcB, heB, _, _, _⟩ := waitProcess_decomp req c hP hb hc he
  rw [hwp]
  exact processYields_inv req hP _ _ hcB (fun _ => heB)

theorem initRS_reach (cfg : Config) (p : Problem) (store : Store) (fuel : Nat) :
    Reach cfg p (plan cfg p store fuel) (initRS cfg p store fuel) := by
  have hP := plan_PI cfg p store fuel
  have hA := plan_active cfg p store fuel
  constructor
  · exact {
      ts := TSInv_init _ hP hA
      futsAct := by intro t; show t ∈ [] ↔ t ∈ (plan cfg p store fuel).active; rw [hA]
      ndF := List.nodup_nil
      hist := Hist_nil _
      subNd := List.nodup_nil
      subAct := by
        intro t
        show t ∈ [] ↔ (t ∈ (plan cfg p store fuel).active ∨ t ∈ [])
        rw [hA]; simp
      noKey := by simp [initRS]
      noRet := by simp [initRS]
      ranNd := List.nodup_nil }
  · intro _
    exact {
      perm := List.Perm.refl _
      res := by intro d v; simp [initRS]
      resNd := List.nodup_nil
      snapOK := by intro j hj; simp [initRS] at hj
      runSnap := by intro j hj; simp [initRS] at hj
      spawnSnap := by intro _ j hj; simp [initRS] at hj
      serialRun := fun _ => rfl
      ranSub := by intro t ht; simp [initRS, ranOf] at ht }

/-- the submit phase of a running loop-head state, with a rider `I` as in `submitAll_inv` -/
theorem submitPhase_inv (hP : PI P) (I : RS → Prop)
    (hstep : ∀ rs t, Core p P rs → Exec cfg P [] rs → t ∈ rs.ts.pending → I rs →
      I (submitTask cfg p { rs with ts := startedTS rs.ts t } t))
    {rs : RS} (h : Reach cfg p P rs) (hrun : rs.status = .running) (hI : I rs) :
    Core p P (submitAll cfg p (readyTasks p rs.ts) rs) ∧
    Exec cfg P [] (submitAll cfg p (readyTasks p rs.ts) rs) ∧
    (submitAll cfg p (readyTasks p rs.ts) rs).status = .running ∧
    I (submitAll cfg p (readyTasks p rs.ts) rs) := by
  have hnd : (readyTasks p rs.ts).Nodup := (readyAux_sublist p rs.ts rs.ts.pending _).nodup h.1.ts.ndP
  have hmem : ∀ t ∈ readyTasks p rs.ts, t ∈ rs.ts.pending ∧ rs.ts.pendDeps t = [] :=
    fun t ht => (readyTasks_no_pending_deps p rs.ts t ht).symm
  obtain ⟨hc, he, hI'⟩ := submitAll_inv hP I hstep _ rs hnd hmem h.1 (h.2 hrun) hI
  refine ⟨hc, he, ?_, hI'⟩
  rw [(submitAll_all cfg p _ rs hnd (fun t ht => (hmem t ht).1)).2]
  exact hrun

theorem submitPhase_reach (hP : PI P) {rs : RS}
    (h : Reach cfg p P rs) (hrun : rs.status = .running) :
    Core p P (submitAll cfg p (readyTasks p rs.ts) rs) ∧
    Exec cfg P [] (submitAll cfg p (readyTasks p rs.ts) rs) ∧
    (submitAll cfg p (readyTasks p rs.ts) rs).status = .running :=
  let ⟨hc, he, hst, _⟩ := submitPhase_inv hP (fun _ => True) (fun _ _ _ _ _ _ => trivial) h hrun trivial
  ⟨hc, he, hst⟩

theorem iteration_reach (req : List Tid) (hP : PI P) (c : Choice)
    {rs : RS} (h : Reach cfg p P rs) (hrun : rs.status = .running) :
    Reach cfg p P (iteration cfg p req c rs) := by
  obtain ⟨hc, he, hst⟩ := submitPhase_reach hP h hrun
  simp only [iteration, hst]
  split
  · exact waitSerial_inv req hP hc he hst
  · next hb => exact waitProcess_inv req c hP hb hc he

theorem runLoop_reach (req : List Tid) (hP : PI P) :
    ∀ (sched : List Choice) (rs : RS), Reach cfg p P rs → Reach cfg p P (runLoop cfg p req sched rs) :=
  runLoop_ind _ (fun c _ hrun _ h => iteration_reach req hP c h hrun)

/-- every loop-head state of every run satisfies the master invariant -/
theorem reach_all (cfg : Config) (p : Problem) (store : Store) (fuel : Nat) (sched : List Choice) :
    Reach cfg p (plan cfg p store fuel)
      (runLoop cfg p (reqTids p) sched (initRS cfg p store fuel)) :=
  runLoop_reach _ (plan_PI cfg p store fuel) sched _ (initRS_reach cfg p store fuel)

end Lt
