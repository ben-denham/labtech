import LabtechModel.Proofs.IntrWindow
/-!
# M10: the per-type limit `max_parallel` holds after EVERY primitive

The active set (`type_to_active_tasks`) grows only by `startTask t`. Inside the submit phase the
ready list was computed by `get_ready_tasks` from the loop-head state, so the invariant carried
through the submit phase is "the active tasks never outnumber (per type) the loop head's active tasks
plus the ready tasks", and `readyAux_limit` bounds that by `max_parallel`. Everything else in an
iteration, and everything in the interrupt handlers, only removes from the active set.
-/
namespace Lt

variable {cfg : Config} {p : Problem}

def startOf : Prim → Option Tid
  | .startTask t => some t
  | _ => none

def starts (ps : List Prim) : List Tid := ps.filterMap startOf

theorem starts_append (a b : List Prim) : starts (a ++ b) = starts a ++ starts b := by
  simp [starts, List.filterMap_append]

theorem starts_cons (q : Prim) (ps : List Prim) : starts (q :: ps) = (startOf q).toList ++ starts ps := by
  simp only [starts, List.filterMap_cons]
  cases startOf q <;> simp

theorem starts_nil_of (ps : List Prim) (h : ∀ q ∈ ps, startOf q = none) : starts ps = [] := by
  induction ps with
  | nil => rfl
  | cons q ps ih =>
    rw [starts_cons, h q List.mem_cons_self, ih (fun q' hq' => h q' (List.mem_cons_of_mem _ hq'))]
    rfl

theorem startOf_of_noTS {q : Prim} (h : q.touchesTS = false) : startOf q = none := by
  cases q <;> first | rfl | exact Bool.noConfusion h

theorem startOf_of_nolaunch {q : Prim} (h : q.launches = false) : startOf q = none := by
  cases q <;> first | rfl | exact Bool.noConfusion h

theorem active_step (q : Prim) (s : IS) :
    (applyPrim cfg p q s).rs.ts.active = s.rs.ts.active ++ (startOf q).toList ∨
    (applyPrim cfg p q s).rs.ts.active = s.rs.ts.active ∨
    ∃ t, (applyPrim cfg p q s).rs.ts.active = s.rs.ts.active.filter (· ≠ t) := by
  by_cases hts : q.touchesTS = false
  · right; left; rw [applyPrim_ts q s hts]
  · by_cases hrun : s.rs.status = .running
    · rw [applyPrim_running _ _ hrun]
      cases q <;> simp [Prim.touchesTS] at hts
      · next t =>
        simp only [stepPrim, startTask]
        cases hr : setRemove s.rs.ts.pending t with
        | none => right; left; rfl
        | some pend => left; rfl
      · next t =>
        simp only [stepPrim]
        cases hr : setRemove s.rs.ts.active t with
        | none => right; left; rfl
        | some a => right; right; exact ⟨t, (setRemove_some _ _ _ hr).2⟩
      · next t d =>
        simp only [stepPrim]
        cases hr : setRemove (s.rs.ts.pendDeps d) t with
        | none => right; left; rfl
        | some a => right; left; rfl
      · next t d =>
        simp only [stepPrim]
        cases hr : setRemove (s.rs.ts.pendDependents d) t with
        | none => right; left; rfl
        | some a => right; left; rfl
    · right; left; rw [applyPrim_stopped _ _ hrun]

/-- per type, a stream never makes more tasks active than were active plus those it starts -/
theorem always_bound (B : Nat → Nat) : ∀ (ps : List Prim) (s : IS),
    (∀ T, typeCount p (s.rs.ts.active ++ starts ps) T ≤ B T) →
    Always cfg p (fun s' => ∀ T, typeCount p s'.rs.ts.active T ≤ B T) ps s := by
  intro ps
  induction ps with
  | nil =>
    intro s h T
    have := h T
    simpa [starts] using this
  | cons q ps ih =>
    intro s h
    refine ⟨fun T => ?_, ih _ (fun T => ?_)⟩
    · have := h T
      rw [typeCount_append] at this
      omega
    · have h0 := h T
      rw [starts_cons, ← List.append_assoc, typeCount_append] at h0
      rw [typeCount_append]
      rcases active_step q s with e | e | ⟨t, e⟩
      · rw [e]; exact h0
      · rw [e]
        rw [typeCount_append] at h0
        omega
      · rw [e]
        have := typeCount_filter_le p s.rs.ts.active (· ≠ t) T
        rw [typeCount_append] at h0
        omega

theorem always_limit_nostart (ps : List Prim) (s : IS) (hn : ∀ q ∈ ps, startOf q = none)
    (h : LimitOK p s.rs.ts.active) : Always cfg p (fun s' => LimitOK p s'.rs.ts.active) ps s := by
  have hb := always_bound (cfg := cfg) (p := p) (fun T => typeCount p s.rs.ts.active T) ps s
    (fun T => by rw [starts_nil_of ps hn]; simp)
  exact hb.mono (fun s' hs' T L hL => Nat.le_trans (hs' T) (h T L hL))

theorem nostart_gen : GenOK cfg (fun q => startOf q = none) where
  basic := fun _ h _ => startOf_of_nolaunch h
  raise := fun _ _ => rfl

theorem startPrims_nostart (js : List Job) : ∀ q ∈ startPrims js, startOf q = none :=
  forall_mem_startPrims (fun _ => ⟨rfl, rfl, rfl⟩) js

theorem starts_submitOne (s : IS) (t : Tid) : starts (submitOnePrims cfg p s t) = [t] := by
  simp only [submitOnePrims]
  split
  · rfl
  · rw [starts_append, starts_append, startProcessesPrims, starts_nil_of _ (startPrims_nostart _)]
    rfl

theorem starts_submit : ∀ (l : List Tid) (s : IS), starts (submitPrims cfg p l s) = l := by
  intro l
  induction l with
  | nil => intro s; rfl
  | cons t ts ih =>
    intro s
    simp only [submitPrims]
    rw [starts_append, starts_submitOne, ih]
    rfl

/-- the submit phase starts the ready tasks, which `get_ready_tasks` chose within the limit -/
theorem always_limit_submit (s : IS) (h : LimitOK p s.rs.ts.active) :
    Always cfg p (fun s' => LimitOK p s'.rs.ts.active) (submitPrims cfg p (readyTasks p s.rs.ts) s) s := by
  have hb := always_bound (cfg := cfg) (p := p)
    (fun T => typeCount p (s.rs.ts.active ++ readyTasks p s.rs.ts) T)
    (submitPrims cfg p (readyTasks p s.rs.ts) s) s (fun T => by rw [starts_submit]; exact Nat.le_refl _)
  refine hb.mono (fun s' hs' T L hL => Nat.le_trans (hs' T) ?_)
  rw [typeCount_append]
  exact readyAux_limit p s.rs.ts T L hL s.rs.ts.pending (typeCount p s.rs.ts.active) (h T L hL)

theorem always_limit_wait (req : List Tid) : ∀ (c : Choice) (s : IS), LimitOK p s.rs.ts.active →
    Always cfg p (fun s' => LimitOK p s'.rs.ts.active) (waitPrims cfg p req c s) s :=
  have nostart : ∀ ps, (∀ q ∈ ps, startOf q = none) → ∀ s, LimitOK p s.rs.ts.active →
      Always cfg p (fun s' => LimitOK p s'.rs.ts.active) ps s := fun ps hn s h => always_limit_nostart ps s hn h
  have popYield := fun t o (s : IS) => nostart (Prim.popFuture t (some o) :: yieldPrims cfg req s.rs.ts t o)
    (fun q hq => by
      rcases List.mem_cons.mp hq with rfl | hq
      · rfl
      · exact members_yield nostart_gen req _ t o q hq) s
  (Always.isSeq _).wait (fun _ => nostart _ (by simp [startOf])) (fun _ s _ _ _ => nostart _ (by simp [startOf]) s)
    (fun _ => popYield) (fun _ c s => nostart _ (forall_consume_dead rfl (fun _ => rfl)) s)
    (fun _ s => nostart _ (startPrims_nostart _) s)
    (fun _ cands s => nostart _ (members_done nostart_gen req cands s) s)

theorem limit_walk (req : List Tid) : Walk cfg p req (Always cfg p (fun s' => LimitOK p s'.rs.ts.active)) :=
  Walk.ofAlways (fun s h _ => always_limit_submit s h) (always_limit_wait req)
    (fun s => always_limit_nostart _ s (fun q hq => by
      rcases mem_cancelPrims hq with rfl | ⟨t, rfl⟩ <;> rfl))
    (fun s => always_limit_nostart _ s (fun q hq => by obtain ⟨t, rfl⟩ := mem_stopPrims hq; rfl))

theorem always_limit_main (req : List Tid) (sched : List Choice) (s : IS) (h : LimitOK p s.rs.ts.active) :
    Always cfg p (fun s' => LimitOK p s'.rs.ts.active) (mainStream cfg p req sched s) s :=
  (limit_walk req).main sched s h

theorem always_limit_handler (req : List Tid) (ds : List Choice) (s : IS) (h : LimitOK p s.rs.ts.active) :
    Always cfg p (fun s' => LimitOK p s'.rs.ts.active) (handlerPrims cfg p req ds s) s :=
  (limit_walk req).handler ds s h

theorem always_limit_second (req : List Tid) (s : IS) (h : LimitOK p s.rs.ts.active) :
    Always cfg p (fun s' => LimitOK p s'.rs.ts.active) (secondPrims cfg p req s) s :=
  (limit_walk req).second s h

end Lt
