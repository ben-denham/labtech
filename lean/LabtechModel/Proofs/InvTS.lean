import LabtechModel.Proofs.InvList
/-!
# Scheduler bookkeeping (`TaskState`) invariant relative to the plan and the set of yielded tasks

Closed forms of `unblock` / `release` under duplicate-freeness, and the invariant `TSInv P Y s`:
the scheduler dictionaries `s` are the plan `P` with the yielded tasks `Y` filtered out.
-/
namespace Lt

theorem release_closed (t : Tid) : ∀ (ds : List Tid) (pdt : Tid → List Tid), ds.Nodup →
    (∀ d ∈ ds, t ∈ pdt d) →
    release t ds pdt = some (fun x => if x ∈ ds then (pdt x).filter (· ≠ t) else pdt x,
                             ds.filter (fun d => ((pdt d).filter (· ≠ t)).isEmpty)) := by
  intro ds
  induction ds with
  | nil => intro pdt _ _; simp [release]
  | cons d ds ih =>
    intro pdt hnd hmem
    have hd : t ∈ pdt d := hmem d List.mem_cons_self
    have hnd' := List.nodup_cons.mp hnd
    have hmem' : ∀ d' ∈ ds, t ∈ upd pdt d ((pdt d).filter (· ≠ t)) d' := by
      intro d' hd'
      simp only [upd]
      split
      · next h => subst h; exact absurd hd' hnd'.1
      · exact hmem d' (List.mem_cons_of_mem _ hd')
    simp only [release, setRemove, hd, if_true]
    rw [ih _ hnd'.2 hmem']
    simp only [Option.some.injEq, Prod.mk.injEq]
    constructor
    · funext x
      simp only [upd, List.mem_cons]
      by_cases hx : x = d
      · subst hx; simp [hnd'.1]
      · simp [hx]
    · have hfc : ds.filter (fun d' => ((upd pdt d ((pdt d).filter (· ≠ t)) d').filter (· ≠ t)).isEmpty)
          = ds.filter (fun d' => ((pdt d').filter (· ≠ t)).isEmpty) := by
        apply List.filter_congr
        intro x hx
        have : x ≠ d := fun h => hnd'.1 (h ▸ hx)
        simp [upd, this]
      rw [hfc, List.filter_cons]

/-- `unblock` walks like `release` and forgets what became removable -/
theorem unblock_eq_release (t : Tid) : ∀ (ds : List Tid) (pd : Tid → List Tid),
    unblock t ds pd = (release t ds pd).map Prod.fst := by
  intro ds
  induction ds with
  | nil => intro pd; rfl
  | cons d ds ih =>
    intro pd
    simp only [unblock, release]
    cases setRemove (pd d) t with
    | none => rfl
    | some l =>
      simp only [ih]
      cases release t ds (upd pd d l) <;> rfl

theorem unblock_closed (t : Tid) (ds : List Tid) (pd : Tid → List Tid) (hnd : ds.Nodup)
    (hmem : ∀ d ∈ ds, t ∈ pd d) :
    unblock t ds pd = some (fun x => if x ∈ ds then (pd x).filter (· ≠ t) else pd x) := by
  rw [unblock_eq_release, release_closed t ds pd hnd hmem]
  rfl

structure TSInv (P : TS) (Y : List Tid) (s : TS) : Prop where
  ddeps : s.ddeps = P.ddeps
  inst : s.instances = P.instances
  ndP : s.pending.Nodup
  ndA : s.active.Nodup
  ndY : Y.Nodup
  disjPA : ∀ t ∈ s.pending, t ∉ s.active
  disjPY : ∀ t ∈ s.pending, t ∉ Y
  disjAY : ∀ t ∈ s.active, t ∉ Y
  cover : ∀ t, t ∈ P.pending ↔ (t ∈ s.pending ∨ t ∈ s.active ∨ t ∈ Y)
  pd : ∀ t, s.pendDeps t = (P.ddeps t).filter (· ∉ Y)
  pdt : ∀ d, s.pendDependents d = (P.pendDependents d).filter (· ∉ Y)
  actDeps : ∀ t ∈ s.active, ∀ d ∈ P.ddeps t, d ∈ Y
  yDeps : ∀ t ∈ Y, ∀ d ∈ P.ddeps t, d ∈ Y

theorem TSInv_init (P : TS) (hP : PI P) (hA : P.active = []) : TSInv P [] P where
  ddeps := rfl
  inst := rfl
  ndP := hP.nodupP
  ndA := by rw [hA]; exact List.nodup_nil
  ndY := List.nodup_nil
  disjPA := by intro t _; rw [hA]; simp
  disjPY := by intro t _; simp
  disjAY := by intro t _; simp
  cover := by intro t; rw [hA]; simp
  pd := by intro t; rw [hP.pdEq, filter_notin_nil]
  pdt := by intro t; rw [filter_notin_nil]
  actDeps := by intro t ht; rw [hA] at ht; simp at ht
  yDeps := by intro t ht; simp at ht

theorem TSInv.active_pd_nil {P : TS} {Y : List Tid} {s : TS} (h : TSInv P Y s) (t : Tid)
    (ht : t ∈ s.active) : s.pendDeps t = [] := by
  rw [h.pd, List.filter_eq_nil_iff]
  intro d hd
  simp only [decide_eq_true_eq, Decidable.not_not]
  exact h.actDeps t ht d hd

theorem TSInv.pd_nil_iff {P : TS} {Y : List Tid} {s : TS} (h : TSInv P Y s) (t : Tid) :
    s.pendDeps t = [] ↔ ∀ d ∈ P.ddeps t, d ∈ Y := by
  rw [h.pd, List.filter_eq_nil_iff]
  simp only [decide_eq_true_eq, Decidable.not_not]

theorem TSInv.mem_pd {P : TS} {Y : List Tid} {s : TS} (h : TSInv P Y s) (t d : Tid) :
    d ∈ s.pendDeps t ↔ d ∈ P.ddeps t ∧ d ∉ Y := by
  rw [h.pd]; simp

theorem TSInv.mem_pdt {P : TS} {Y : List Tid} {s : TS} (h : TSInv P Y s) (d t : Tid) :
    t ∈ s.pendDependents d ↔ t ∈ P.pendDependents d ∧ t ∉ Y := by
  rw [h.pdt]; simp

/-- `start_task` of a pending task whose dependencies have all been yielded -/
theorem startTask_TSInv (P : TS) (Y : List Tid) (s : TS) (t : Tid) (h : TSInv P Y s)
    (ht : t ∈ s.pending) (hd : ∀ d ∈ P.ddeps t, d ∈ Y) :
    TSInv P Y (startedTS s t) where
  ddeps := h.ddeps
  inst := h.inst
  ndP := h.ndP.filter _
  ndA := nodup_snoc h.ndA (h.disjPA t ht)
  ndY := h.ndY
  disjPA := fun x hx hxa => by
    obtain ⟨hxp, hne⟩ := List.mem_filter.mp hx
    exact (List.mem_append.mp hxa).elim (h.disjPA x hxp) (fun hxt => of_decide_eq_true hne (List.mem_singleton.mp hxt))
  disjPY := fun x hx => h.disjPY x (List.mem_filter.mp hx).1
  disjAY := fun x hx => (List.mem_append.mp hx).elim (h.disjAY x)
    (fun hxt => by cases List.mem_singleton.mp hxt; exact h.disjPY _ ht)
  cover := fun x => by
    rw [h.cover x]
    simp only [List.mem_filter, ne_eq, decide_eq_true_eq, List.mem_append, List.mem_singleton]
    by_cases hx : x = t
    · subst hx; simp [ht]
    · simp [hx]
  pd := h.pd
  pdt := h.pdt
  actDeps := fun x hx => (List.mem_append.mp hx).elim (h.actDeps x)
    (fun hxt => by cases List.mem_singleton.mp hxt; exact hd)
  yDeps := h.yDeps

/-- `complete_task` of an active task always succeeds (no `KeyError`) and keeps the invariant with
    the task added to the yielded set; the reported removable results are exactly the direct
    dependencies (and the task itself) that no unfinished task waits for any more -/
theorem completeTask_TSInv (P : TS) (hP : PI P) (Y : List Tid) (s : TS) (t : Tid) (h : TSInv P Y s)
    (ht : t ∈ s.active) :
    ∃ s' rem, completeTask s t = some (s', rem) ∧ TSInv P (Y ++ [t]) s' ∧
      s'.pending = s.pending ∧ s'.active = s.active.filter (· ≠ t) ∧
      (∀ d, d ∈ rem ↔ (d ∈ P.ddeps t ∨ d = t) ∧ s'.pendDependents d = []) := by
  have htY : t ∉ Y := h.disjAY t ht
  have hub := unblock_closed t (s.pendDependents t) s.pendDeps
    (by rw [h.pdt]; exact (hP.nodupDt t).filter _)
    (by
      intro x hx
      rw [h.mem_pdt] at hx
      rw [h.mem_pd]
      exact ⟨(hP.dual t x).mp hx.1, htY⟩)
  have hrel := release_closed t (s.ddeps t) s.pendDependents
    (by rw [h.ddeps]; exact hP.nodupD t)
    (by
      intro d hd
      rw [h.ddeps] at hd
      rw [h.mem_pdt]
      exact ⟨(hP.dual d t).mpr hd, htY⟩)
  -- the dictionaries after the step, in filtered form
  have hpd' : ∀ x, (if x ∈ s.pendDependents t then (s.pendDeps x).filter (· ≠ t) else s.pendDeps x)
      = (P.ddeps x).filter (· ∉ Y ++ [t]) := by
    intro x
    rw [filter_notin_snoc, ← h.pd]
    split
    · rfl
    · next hx =>
      rw [filter_ne_self]
      intro htx
      rw [h.mem_pd] at htx
      apply hx
      rw [h.mem_pdt]
      refine ⟨(hP.dual t x).mpr htx.1, ?_⟩
      intro hxY
      exact htY (h.yDeps x hxY t htx.1)
  have hpdt' : ∀ x, (if x ∈ s.ddeps t then (s.pendDependents x).filter (· ≠ t) else s.pendDependents x)
      = (P.pendDependents x).filter (· ∉ Y ++ [t]) := by
    intro x
    rw [filter_notin_snoc, ← h.pdt]
    split
    · rfl
    · next hx =>
      rw [filter_ne_self]
      intro htx
      rw [h.mem_pdt] at htx
      apply hx
      rw [h.ddeps]
      exact (hP.dual x t).mp htx.1
  refine ⟨{ s with active := s.active.filter (· ≠ t),
                     pendDeps := fun x => if x ∈ s.pendDependents t then (s.pendDeps x).filter (· ≠ t) else s.pendDeps x,
                     pendDependents := fun x => if x ∈ s.ddeps t then (s.pendDependents x).filter (· ≠ t) else s.pendDependents x },
    if (if t ∈ s.ddeps t then (s.pendDependents t).filter (· ≠ t) else s.pendDependents t).isEmpty
      then (s.ddeps t).filter (fun d => ((s.pendDependents d).filter (· ≠ t)).isEmpty) ++ [t]
      else (s.ddeps t).filter (fun d => ((s.pendDependents d).filter (· ≠ t)).isEmpty),
    ?_, ?_, rfl, rfl, ?_⟩
  · simp only [completeTask, setRemove, ht, if_true, hub, hrel]
  · exact {
      ddeps := h.ddeps
      inst := h.inst
      ndP := h.ndP
      ndA := h.ndA.filter _
      ndY := nodup_snoc h.ndY htY
      disjPA := fun x hx hxa => h.disjPA x hx (List.mem_filter.mp hxa).1
      disjPY := fun x hx hxY => (List.mem_append.mp hxY).elim (h.disjPY x hx)
        (fun hxt => by cases List.mem_singleton.mp hxt; exact h.disjPA _ hx ht)
      disjAY := fun x hx hxY => by
        obtain ⟨hxa, hne⟩ := List.mem_filter.mp hx
        exact (List.mem_append.mp hxY).elim (h.disjAY x hxa) (fun hxt => of_decide_eq_true hne (List.mem_singleton.mp hxt))
      cover := fun x => by
        rw [h.cover x]
        simp only [List.mem_filter, ne_eq, decide_eq_true_eq, List.mem_append, List.mem_singleton]
        by_cases hx : x = t
        · subst hx; simp [ht]
        · simp [hx]
      pd := hpd'
      pdt := hpdt'
      actDeps := fun x hx d hd => List.mem_append_left _ (h.actDeps x (List.mem_filter.mp hx).1 d hd)
      yDeps := fun x hx d hd => List.mem_append_left _ ((List.mem_append.mp hx).elim
        (fun hx => h.yDeps x hx d hd) (fun hx => by cases List.mem_singleton.mp hx; exact h.actDeps _ ht d hd)) }
  · intro d
    have hself : t ∉ s.ddeps t := fun hself => htY (h.actDeps t ht t (h.ddeps ▸ hself))
    have hR : d ∈ (s.ddeps t).filter (fun d => ((s.pendDependents d).filter (· ≠ t)).isEmpty) ↔
        d ∈ P.ddeps t ∧
          (if d ∈ s.ddeps t then (s.pendDependents d).filter (· ≠ t) else s.pendDependents d) = [] := by
      rw [List.mem_filter, List.isEmpty_iff, h.ddeps]
      exact and_congr_right (fun hd => by rw [if_pos hd])
    simp only [if_neg hself]
    split
    · next he =>
      rw [List.isEmpty_iff] at he
      rw [List.mem_append, hR, List.mem_singleton]
      constructor
      · rintro (⟨a, b⟩ | rfl)
        · exact ⟨Or.inl a, b⟩
        · exact ⟨Or.inr rfl, by rw [if_neg hself]; exact he⟩
      · rintro ⟨a | rfl, b⟩
        · exact Or.inl ⟨a, b⟩
        · exact Or.inr rfl
    · next he =>
      rw [hR]
      constructor
      · rintro ⟨a, b⟩; exact ⟨Or.inl a, b⟩
      · rintro ⟨a | rfl, b⟩
        · exact ⟨a, b⟩
        · rw [if_neg hself] at b
          exact absurd (List.isEmpty_iff.mpr b) he

end Lt
