import LabtechModel.Proofs.ParamsEq
/-! Normalisation (`immutable_param_value`) and the dependency search: `normalize` fails (`TaskError`) exactly on
the raw values with a `bad` position and otherwise returns the `freeze`d input; `findTasksRaw` agrees with it. -/
namespace Lt.Params

mutual
/-- what `normalize` returns on an accepted value, as a raw value (`normalize_spec`): lists as tuples, dicts as
frozendicts, nothing else changed -/
def freeze : Raw → Raw
  | .scalar s => .scalar s
  | .enum c n => .enum c n
  | .list items => .tuple (freezeList items)
  | .tuple items => .tuple (freezeList items)
  | .dict items => .fdict (freezeItems items)
  | .fdict items => .fdict (freezeItems items)
  | .task t => .task t
  | .unsupported => .unsupported
def freezeList : List Raw → List Raw
  | [] => []
  | r :: rs => freeze r :: freezeList rs
def freezeItems : List (RawKey × Raw) → List (RawKey × Raw)
  | [] => []
  | (k, r) :: rest => (k, freeze r) :: freezeItems rest
end

mutual
/-- an unsupported value or a non-string dict key occurs at a position `immutable_param_value` visits
(it does not look inside already constructed tasks) -/
def Raw.bad : Raw → Bool
  | .scalar _ => false
  | .enum _ _ => false
  | .list items => badList items
  | .tuple items => badList items
  | .dict items => badItems items
  | .fdict items => badItems items
  | .task _ => false
  | .unsupported => true
def badList : List Raw → Bool
  | [] => false
  | r :: rs => r.bad || badList rs
def badItems : List (RawKey × Raw) → Bool
  | [] => false
  | (.other, _) :: _ => true
  | (.str _, r) :: rest => r.bad || badItems rest
end

mutual
/-- no list, no mutable dict, no unsupported value and only string keys, at every depth -/
def Raw.normal : Raw → Bool
  | .scalar _ => true
  | .enum _ _ => true
  | .list _ => false
  | .tuple items => normalList items
  | .dict _ => false
  | .fdict items => normalItems items
  | .task _ => true
  | .unsupported => false
def normalList : List Raw → Bool
  | [] => true
  | r :: rs => r.normal && normalList rs
def normalItems : List (RawKey × Raw) → Bool
  | [] => true
  | (.other, _) :: _ => false
  | (.str _, r) :: rest => r.normal && normalItems rest
end

/-- `x` fails, with `TaskError`, if `b`; otherwise it succeeds -/
def FailsIff {α : Type} (b : Bool) (x : Except Err α) : Prop :=
  (b = true ∧ x = .error .taskError) ∨ (b = false ∧ ∃ v, x = .ok v)

theorem FailsIff.error {α : Type} {b : Bool} {x : Except Err α} (h : FailsIff b x) (hb : b = true) :
    x = .error .taskError := by
  rcases h with ⟨_, hx⟩ | ⟨hb', _⟩
  · exact hx
  · rw [hb] at hb'; cases hb'

theorem FailsIff.of_error {α : Type} {b : Bool} {x : Except Err α} (h : FailsIff b x) {e : Err} (he : x = .error e) :
    b = true ∧ e = .taskError := by
  rcases h with ⟨hb, hx⟩ | ⟨_, v, hx⟩
  · rw [hx] at he; cases he; exact ⟨hb, rfl⟩
  · rw [hx] at he; cases he

theorem FailsIff.ok_iff {α : Type} {b : Bool} {x : Except Err α} (h : FailsIff b x) : (∃ v, x = .ok v) ↔ b = false := by
  rcases h with ⟨hb, hx⟩ | ⟨hb, hv⟩
  · simp [hb, hx]
  · simp [hb, hv]

mutual
theorem normalize_failsIff : ∀ r, FailsIff r.bad (normalize r)
  | .scalar _ | .enum _ _ | .task _ => .inr ⟨rfl, _, rfl⟩
  | .unsupported => .inl ⟨rfl, rfl⟩
  | .list items | .tuple items => by
    rcases normList_failsIff items with ⟨hb, hn⟩ | ⟨hb, vs, hn⟩ <;> simp [FailsIff, Raw.bad, normalize, hb, hn]
  | .dict items | .fdict items => by
    rcases normItems_failsIff items with ⟨hb, hn⟩ | ⟨hb, vs, hn⟩ <;> simp [FailsIff, Raw.bad, normalize, hb, hn]
theorem normList_failsIff : ∀ l, FailsIff (badList l) (normList l)
  | [] => .inr ⟨rfl, _, rfl⟩
  | r :: rs => by
    rcases normalize_failsIff r with ⟨hb, hn⟩ | ⟨hb, v, hn⟩
    · simp [FailsIff, badList, normList, hb, hn]
    · rcases normList_failsIff rs with ⟨hb', hn'⟩ | ⟨hb', vs, hn'⟩ <;>
        simp [FailsIff, badList, normList, hb, hn, hb', hn']
theorem normItems_failsIff : ∀ l, FailsIff (badItems l) (normItems l)
  | [] => .inr ⟨rfl, _, rfl⟩
  | (.other, _) :: _ => .inl ⟨rfl, rfl⟩
  | (.str k, r) :: rest => by
    rcases normalize_failsIff r with ⟨hb, hn⟩ | ⟨hb, v, hn⟩
    · simp [FailsIff, badItems, normItems, hb, hn]
    · rcases normItems_failsIff rest with ⟨hb', hn'⟩ | ⟨hb', vs, hn'⟩ <;>
        simp [FailsIff, badItems, normItems, hb, hn, hb', hn']
end

theorem normList_bad : ∀ l, badList l = true → normList l = .error .taskError := fun l => (normList_failsIff l).error
theorem normItems_bad : ∀ l, badItems l = true → normItems l = .error .taskError := fun l => (normItems_failsIff l).error

theorem normList_err_bad : ∀ l e, normList l = .error e → badList l = true := fun l _ h =>
  ((normList_failsIff l).of_error h).1
theorem normItems_err_bad : ∀ l e, normItems l = .error e → badItems l = true := fun l _ h =>
  ((normItems_failsIff l).of_error h).1

theorem normFields_failsIff : ∀ fs : List (String × Raw), FailsIff (fs.any fun kv => kv.2.bad) (normFields fs)
  | [] => .inr ⟨rfl, _, rfl⟩
  | (k, r) :: rest => by
    rcases normalize_failsIff r with ⟨hb, hn⟩ | ⟨hb, v, hn⟩
    · simp [FailsIff, normFields, hb, hn]
    · rcases normFields_failsIff rest with ⟨hb', hn'⟩ | ⟨hb', vs, hn'⟩ <;>
        simp [FailsIff, normFields, hb, hn, hb', hn']

theorem construct_failsIff {D : Type} (env : Env D) (cls : ClassRef) (fs : List (String × Raw)) :
    FailsIff (fs.any fun kv => kv.2.bad) (construct env cls fs) := by
  rcases normFields_failsIff fs with ⟨hb, hn⟩ | ⟨hb, vs, hn⟩ <;> simp [FailsIff, construct, hb, hn]

theorem normList_cons_ok {r : Raw} {rs : List Raw} {vs : List Value} (h : normList (r :: rs) = .ok vs) :
    ∃ v ws, normalize r = .ok v ∧ normList rs = .ok ws ∧ vs = v :: ws := by
  simp only [normList] at h
  split at h
  · cases h
  · split at h <;> cases h
    exact ⟨_, _, ‹_›, ‹_›, rfl⟩

theorem normItems_cons_ok {k : String} {r : Raw} {rest : List (RawKey × Raw)} {vs : List (String × Value)}
    (h : normItems ((.str k, r) :: rest) = .ok vs) :
    ∃ v ws, normalize r = .ok v ∧ normItems rest = .ok ws ∧ vs = (k, v) :: ws := by
  simp only [normItems] at h
  split at h
  · cases h
  · split at h <;> cases h
    exact ⟨_, _, ‹_›, ‹_›, rfl⟩

mutual
theorem normalize_spec : ∀ r v, normalize r = .ok v → embed v = freeze r
  | .scalar _, v | .enum _ _, v | .task _, v => fun h => by cases h; rfl
  | .list items, v | .tuple items, v => fun h => by
    simp only [normalize] at h
    split at h <;> cases h
    simp only [embed, freeze, normList_spec items _ ‹_›]
  | .dict items, v | .fdict items, v => fun h => by
    simp only [normalize] at h
    split at h <;> cases h
    simp only [embed, freeze, normItems_spec items _ ‹_›]
  | .unsupported, v => fun h => by cases h
theorem normList_spec : ∀ l vs, normList l = .ok vs → embedList vs = freezeList l
  | [], vs => fun h => by cases h; rfl
  | r :: rs, vs => fun h => by
    obtain ⟨v, ws, hr, hl, rfl⟩ := normList_cons_ok h
    simp only [embedList, freezeList, normalize_spec r v hr, normList_spec rs ws hl]
theorem normItems_spec : ∀ l vs, normItems l = .ok vs → embedFields vs = freezeItems l
  | [], vs => fun h => by cases h; rfl
  | (.other, _) :: _, vs => fun h => by cases h
  | (.str k, r) :: rest, vs => fun h => by
    obtain ⟨v, ws, hr, hl, rfl⟩ := normItems_cons_ok h
    simp only [embedFields, freezeItems, normalize_spec r v hr, normItems_spec rest ws hl]
end

mutual
theorem embed_normal : ∀ v, (embed v).normal = true
  | .scalar _ | .enum _ _ | .task _ => by simp [embed, Raw.normal]
  | .tuple items => embedList_normal items
  | .dict items => embedFields_normal items
theorem embedList_normal : ∀ l, normalList (embedList l) = true
  | [] => by simp [embedList, normalList]
  | v :: vs => by simp [embedList, normalList, embed_normal v, embedList_normal vs]
theorem embedFields_normal : ∀ l, normalItems (embedFields l) = true
  | [] => by simp [embedFields, normalItems]
  | (k, v) :: rest => by simp [embedFields, normalItems, embed_normal v, embedFields_normal rest]
end

mutual
theorem normalize_embed : ∀ v, normalize (embed v) = .ok v
  | .scalar _ | .enum _ _ | .task _ => by simp [embed, normalize]
  | .tuple items => by simp [embed, normalize, normList_embed items]
  | .dict items => by simp [embed, normalize, normItems_embed items]
theorem normList_embed : ∀ l, normList (embedList l) = .ok l
  | [] => by simp [embedList, normList]
  | v :: vs => by simp [embedList, normList, normalize_embed v, normList_embed vs]
theorem normItems_embed : ∀ l, normItems (embedFields l) = .ok l
  | [] => by simp [embedFields, normItems]
  | (k, v) :: rest => by simp [embedFields, normItems, normalize_embed v, normItems_embed rest]
end

mutual
theorem normalize_freeze : ∀ r, normalize (freeze r) = normalize r
  | .scalar _ | .enum _ _ | .task _ | .unsupported => by simp [freeze]
  | .list items => by simp [freeze, normalize, normList_freeze items]
  | .tuple items => by simp [freeze, normalize, normList_freeze items]
  | .dict items => by simp [freeze, normalize, normItems_freeze items]
  | .fdict items => by simp [freeze, normalize, normItems_freeze items]
theorem normList_freeze : ∀ l, normList (freezeList l) = normList l
  | [] => by simp [freezeList]
  | r :: rs => by simp [freezeList, normList, normalize_freeze r, normList_freeze rs]
theorem normItems_freeze : ∀ l, normItems (freezeItems l) = normItems l
  | [] => by simp [freezeItems]
  | (.other, r) :: rest => by simp [freezeItems, normItems]
  | (.str k, r) :: rest => by simp [freezeItems, normItems, normalize_freeze r, normItems_freeze rest]
end

mutual
theorem findTasksRaw_of_normalize : ∀ r v, normalize r = .ok v → findTasksRaw r = .ok (findTasks v)
  | .scalar _, v | .enum _ _, v | .task _, v => fun h => by cases h; rfl
  | .list items, v | .tuple items, v => fun h => by
    simp only [normalize] at h
    split at h <;> cases h
    simp only [findTasksRaw, findTasks, findRawList_of_norm items _ ‹_›]
  | .dict items, v | .fdict items, v => fun h => by
    simp only [normalize] at h
    split at h <;> cases h
    simp only [findTasksRaw, findTasks, findRawItems_of_norm items _ ‹_›]
  | .unsupported, v => fun h => by cases h
theorem findRawList_of_norm : ∀ l vs, normList l = .ok vs → findRawList l = .ok (findList vs)
  | [], vs => fun h => by cases h; rfl
  | r :: rs, vs => fun h => by
    obtain ⟨v, ws, hr, hl, rfl⟩ := normList_cons_ok h
    simp only [findRawList, findList, findTasksRaw_of_normalize r v hr, findRawList_of_norm rs ws hl]
theorem findRawItems_of_norm : ∀ l vs, normItems l = .ok vs → findRawItems l = .ok (findFields vs)
  | [], vs => fun h => by cases h; rfl
  | (.other, _) :: _, vs => fun h => by cases h
  | (.str k, r) :: rest, vs => fun h => by
    obtain ⟨v, ws, hr, hl, rfl⟩ := normItems_cons_ok h
    simp only [findRawItems, findFields, findTasksRaw_of_normalize r v hr, findRawItems_of_norm rest ws hl]
end

theorem addO_eq (acc : List Task) (t : Task) : addO acc t = if t ∈ acc then acc else acc ++ [t] := by
  have : acc.any (fun u => Task.beq u t) = decide (t ∈ acc) := by
    rw [Bool.eq_iff_iff]
    simp [Task.beq_iff]
  simp only [addO, this, decide_eq_true_eq]

/-- adding the tasks of `l` one by one to a duplicate-free `acc` appends a sublist of `l`; the result is
duplicate-free and holds exactly the tasks of `acc` and `l` -/
theorem foldl_addO (l : List Task) : ∀ acc : List Task, acc.Nodup →
    ∃ r, l.foldl addO acc = acc ++ r ∧ r.Sublist l ∧ (acc ++ r).Nodup ∧ ∀ u, u ∈ acc ++ r ↔ u ∈ acc ∨ u ∈ l := by
  induction l with
  | nil => intro acc h; exact ⟨[], by simp, .slnil, by simpa using h, by simp⟩
  | cons t ts ih =>
    intro acc h
    rw [List.foldl_cons, addO_eq]
    by_cases ht : t ∈ acc
    · obtain ⟨r, hr, hs, hn, hm⟩ := ih acc h
      rw [if_pos ht]
      refine ⟨r, hr, hs.cons t, hn, fun u => ?_⟩
      rw [hm, List.mem_cons]
      exact ⟨.imp_right .inr, fun h => h.elim .inl fun h => h.elim (fun e => .inl (e ▸ ht)) .inr⟩
    · obtain ⟨r, hr, hs, hn, hm⟩ := ih (acc ++ [t]) (by simpa [List.nodup_append, h] using fun a ha (e : a = t) => ht (e ▸ ha))
      rw [if_neg ht]
      exact ⟨t :: r, by simpa using hr, hs.cons_cons t, by simpa using hn, fun u => by simpa [or_assoc] using hm u⟩

end Lt.Params
