import LabtechModel.Proofs.Inv2Main
/-!
# C16: values never influence the shape of a run (which entries are written, under which key)

`zrs` erases every computed value of a coordinator state (results, captured results, store, worker
snapshots, trace) to `0`. Every step of the model commutes with the erasure when `run()` is replaced
by the value-free `eraseP p okL` (succeed with `0` iff the task is in `okL`). Hence two problems that
differ only in `behave` (= in what `run()` computes from its context and its dependencies' values)
and have the same success pattern produce runs of the same shape and stores with the same keys.
-/
namespace Lt

def zl (l : List (Tid × Val)) : List (Tid × Val) := l.map (fun kv => (kv.1, 0))

def zo : Outcome → Outcome
  | .ok _ => .ok 0
  | .exc => .exc
  | .died => .died

@[reducible] def zj (j : Job) : Job := { j with snap := j.snap.map zl }

def zev : Ev → Ev
  | .yield t o => .yield t (zo o)
  | .exec t seen => .exec t (seen.map (Option.map (fun _ => 0)))
  | .submit t uc => .submit t uc
  | .start t => .start t
  | .waitEnter a b => .waitEnter a b
  | .remove a b => .remove a b
  | .load t => .load t

def zst : Status → Status
  | .returned r => .returned (zl r)
  | .running => .running
  | .raised e => .raised e

def zrs (rs : RS) : RS :=
  { rs with queued := rs.queued.map zj, running := rs.running.map zj, results := zl rs.results,
            taskResults := zl rs.taskResults, store := zl rs.store, trace := rs.trace.map zev,
            status := zst rs.status }

/-- `run()` replaced by a value-free stub: succeeds with `0` exactly for the tasks in `okL` -/
@[reducible] def eraseP (p : Problem) (okL : List Tid) : Problem :=
  { p with behave := fun t _ => if t ∈ okL then some 0 else none }

theorem RS_ext (a b : RS) (h1 : a.ts = b.ts) (h2 : a.queued = b.queued) (h3 : a.running = b.running)
    (h4 : a.futs = b.futs) (h5 : a.results = b.results) (h6 : a.taskResults = b.taskResults)
    (h7 : a.store = b.store) (h8 : a.marked = b.marked) (h9 : a.trace = b.trace)
    (h10 : a.status = b.status) : a = b := by
  cases a; cases b; simp_all

theorem zl_keys (l : List (Tid × Val)) : (zl l).map Prod.fst = l.map Prod.fst := by
  simp [zl, List.map_map, Function.comp_def]


theorem lookup_zl (t : Tid) : ∀ (l : List (Tid × Val)), lookup t (zl l) = (lookup t l).map (fun _ => 0) := by
  intro l
  induction l with
  | nil => rfl
  | cons kv rest ih =>
    obtain ⟨k, v⟩ := kv
    simp only [zl, List.map_cons, lookup]
    split
    · rfl
    · exact ih

theorem zl_filter_key (q : Tid → Bool) : ∀ (l : List (Tid × Val)),
    zl (l.filter (fun kv => q kv.1)) = (zl l).filter (fun kv => q kv.1) := by
  intro l
  induction l with
  | nil => rfl
  | cons kv rest ih =>
    simp only [List.filter_cons, zl, List.map_cons] at ih ⊢
    split
    · simp only [List.map_cons, ih]
    · exact ih

theorem zl_cons (t : Tid) (v : Val) (l : List (Tid × Val)) : zl ((t, v) :: l) = (t, 0) :: zl l := rfl

variable (cfg : Config) (p : Problem) (okL : List Tid)

theorem useCache_zl (st : Store) (t : Tid) :
    useCache cfg p (zl st) t = useCache cfg p st t := by
  simp only [useCache, lookup_zl]
  cases lookup t st <;> rfl

theorem useCache_eraseP (st : Store) (t : Tid) :
    useCache cfg (eraseP p okL) st t = useCache cfg p st t := rfl

theorem reads_zl (i : Iid) (snap : List (Tid × Val)) :
    reads p i (zl snap) = (reads p i snap).map (Option.map (fun _ => 0)) := by
  simp only [reads, List.map_map]
  apply List.map_congr_left
  intro c _
  simp only [Function.comp, lookup_zl]

theorem processLevel_behave (b : Tid → List (Option Val) → Option Val) (uc : Tid → Bool) :
    ∀ (l : List Iid) (s : TS) (acc : List Iid),
      processLevel { p with behave := b } uc l s acc = processLevel p uc l s acc := by
  intro l
  induction l with
  | nil => intro s acc; rfl
  | cons i is ih =>
    intro s acc
    simp only [processLevel]
    split
    · exact ih s acc
    · exact ih _ _

theorem processTasks_behave (b : Tid → List (Option Val) → Option Val) (uc : Tid → Bool) :
    ∀ (fuel : Nat) (l : List Iid) (s : TS),
      processTasks { p with behave := b } uc fuel l s = processTasks p uc fuel l s := by
  intro fuel
  induction fuel with
  | zero => intro l s; rfl
  | succ n ih =>
    intro l s
    simp only [processTasks, processLevel_behave]
    split
    · rfl
    · exact ih _ _

/-- what `run()` computes enters neither planning nor (`readyAux_behave`) `get_ready_tasks` -/
theorem plan_behave (b : Tid → List (Option Val) → Option Val)
    (store : Store) (fuel : Nat) :
    plan cfg { p with behave := b } store fuel = plan cfg p store fuel := by
  simp only [plan]
  have : useCache cfg { p with behave := b } store = useCache cfg p store := rfl
  rw [this, processTasks_behave]

theorem plan_eraseP (store : Store) (fuel : Nat) :
    plan cfg (eraseP p okL) (zl store) fuel = plan cfg p store fuel := by
  rw [plan_behave]
  simp only [plan]
  rw [funext (useCache_zl cfg p store)]

theorem readyAux_behave (b : Tid → List (Option Val) → Option Val) (s : TS) :
    ∀ (l : List Tid) (c : Nat → Nat), readyAux { p with behave := b } s l c = readyAux p s l c := by
  intro l
  induction l with
  | nil => intro c; rfl
  | cons x rest ih =>
    intro c
    simp only [readyAux, ih]

theorem readyTasks_eraseP (s : TS) :
    readyTasks (eraseP p okL) s = readyTasks p s := by
  simp only [readyTasks, readyAux_behave]
  rfl

@[simp] theorem zrs_ts (rs : RS) : (zrs rs).ts = rs.ts := rfl
@[simp] theorem zrs_queued (rs : RS) : (zrs rs).queued = rs.queued.map zj := rfl
@[simp] theorem zrs_running (rs : RS) : (zrs rs).running = rs.running.map zj := rfl
@[simp] theorem zrs_futs (rs : RS) : (zrs rs).futs = rs.futs := rfl
@[simp] theorem zrs_results (rs : RS) : (zrs rs).results = zl rs.results := rfl
@[simp] theorem zrs_taskResults (rs : RS) : (zrs rs).taskResults = zl rs.taskResults := rfl
@[simp] theorem zrs_store (rs : RS) : (zrs rs).store = zl rs.store := rfl
@[simp] theorem zrs_marked (rs : RS) : (zrs rs).marked = rs.marked := rfl
@[simp] theorem zrs_trace (rs : RS) : (zrs rs).trace = rs.trace.map zev := rfl
@[simp] theorem zrs_status (rs : RS) : (zrs rs).status = zst rs.status := rfl
@[simp] theorem zj_tid (j : Job) : (zj j).tid = j.tid := rfl
@[simp] theorem zj_useCache (j : Job) : (zj j).useCache = j.useCache := rfl

theorem zj_tid_map (l : List Job) : (l.map zj).map Job.tid = l.map Job.tid := by
  simp [List.map_map, Function.comp_def]

theorem zst_running_iff (s : Status) : zst s = .running ↔ s = .running := by
  cases s <;> simp [zst]

theorem takeN_map {α β} (f : α → β) : ∀ (n : Nat) (l : List α),
    takeN n (l.map f) = ((takeN n l).1.map f, (takeN n l).2.map f) := by
  intro n
  induction n with
  | zero => intro l; rfl
  | succ n ih =>
    intro l
    cases l with
    | nil => rfl
    | cons x xs =>
      simp only [List.map_cons, takeN, ih]

theorem startProcesses_zrs (rs : RS) :
    zrs (startProcesses cfg rs) = startProcesses cfg (zrs rs) := by
  have hsnap : ∀ j : Job, zj (if cfg.backend = .fork then { j with snap := some rs.results } else j)
      = (if cfg.backend = .fork then { zj j with snap := some (zl rs.results) } else zj j) := by
    intro j; split <;> rfl
  simp only [startProcesses, zrs, List.length_map, takeN_map, List.map_append, List.map_map, Function.comp_def,
    hsnap, zev, apply_ite Job.tid, ite_self]

theorem submitTask_zrs (rs : RS) (t : Tid) :
    zrs (submitTask cfg p rs t) = submitTask cfg (eraseP p okL) (zrs rs) t := by
  have huc : useCache cfg (eraseP p okL) (zl rs.store) t = useCache cfg p rs.store t :=
    useCache_zl cfg p rs.store t
  have hbase : zrs (subBase rs t (newJob cfg p rs t) (useCache cfg p rs.store t))
      = subBase (zrs rs) t (newJob cfg (eraseP p okL) (zrs rs) t)
          (useCache cfg (eraseP p okL) (zrs rs).store t) := by
    simp only [zrs, zj, subBase, newJob, huc, List.map_append, List.map_cons, List.map_nil, zev, apply_ite (Option.map zl),
      Option.map_some, Option.map_none, zl_filter_key (fun k => decide (k ∈ rs.ts.ddeps t))]
    rfl
  show zrs (if cfg.backend = .serial then _ else startProcesses cfg _)
    = if cfg.backend = .serial then _ else startProcesses cfg _
  split
  · exact hbase
  · rw [startProcesses_zrs, hbase]

theorem submitAll_zrs :
    ∀ (l : List Tid) (rs : RS), zrs (submitAll cfg p l rs) = submitAll cfg (eraseP p okL) l (zrs rs) := by
  intro l
  induction l with
  | nil => intro rs; rfl
  | cons t ts ih =>
    intro rs
    simp only [submitAll, zrs_ts]
    cases startTask rs.ts t with
    | none => rfl
    | some s' =>
      simp only
      rw [ih, submitTask_zrs]
      rfl

theorem zl_removeResults (res : List (Tid × Val)) (ts : List Tid) :
    zl (removeResults res ts) = removeResults (zl res) ts := by
  simp only [removeResults]
  exact zl_filter_key (fun k => decide (k ∉ ts)) res

theorem zl_filter_ne (res : List (Tid × Val)) (t : Tid) :
    zl (res.filter (fun kv => kv.1 ≠ t)) = (zl res).filter (fun kv => kv.1 ≠ t) :=
  zl_filter_key (fun k => decide (k ≠ t)) res

theorem remove_keys_zl (l : List (Tid × Val)) (rem : List Tid) :
    (removeResults (zl l) rem).map (fun x => x.fst) = (removeResults l rem).map (fun x => x.fst) := by
  rw [← zl_removeResults]; exact zl_keys _

theorem zst_raised (e : Err) : zst (.raised e) = .raised e := rfl

theorem processYield_zrs (req : List Tid) (rs : RS) (t : Tid) (o : Outcome) :
    zrs (processYield cfg req rs t o) = processYield cfg req (zrs rs) t (zo o) := by
  cases o with
  | ok v =>
    simp only [processYield, zo, zrs_ts]
    rcases completeTask rs.ts t with _ | ⟨s', rem⟩
    · simp only [zrs, zl_cons, zl_filter_ne, List.map_append, List.map_cons, List.map_nil, zev, zo, zst,
        apply_ite zl]
    · simp only [zrs, zl_cons, zl_filter_ne, List.map_append, List.map_cons, List.map_nil, zev, zo,
        zl_removeResults, apply_ite zl]
      rw [← zl_filter_ne, ← zl_cons t v, remove_keys_zl]
  | exc | died =>
    simp only [processYield, zo, zrs_ts]
    rcases completeTask rs.ts t with _ | ⟨s', rem⟩
    · simp only [zrs, List.map_append, List.map_cons, List.map_nil, zev, zo, zst]
    · cases cfg.contOnFail <;>
        simp only [zrs, List.map_append, List.map_cons, List.map_nil, zev, zo, zst, zl_removeResults,
          remove_keys_zl, Bool.false_eq_true, if_false, if_true]

def zy (y : Tid × Outcome) : Tid × Outcome := (y.1, zo y.2)

theorem processYields_zrs (req : List Tid) :
    ∀ (ys : List (Tid × Outcome)) (rs : RS),
      zrs (processYields cfg req ys rs) = processYields cfg req (ys.map zy) (zrs rs) := by
  intro ys
  induction ys with
  | nil => intro rs; rfl
  | cons y rest ih =>
    intro rs
    obtain ⟨t, o⟩ := y
    simp only [processYields, List.map_cons, zy, zrs_status]
    cases hs : rs.status with
    | running =>
      simp only [zst]
      rw [ih, processYield_zrs]
      rfl
    | returned r => rfl
    | raised e => rfl

def okOr : Option Val → Outcome
  | some v => .ok v
  | none => .exc

theorem runOutcome_eq (ts : TS) (st : Store) (j : Job) :
    runOutcome p ts st j =
      if j.useCache then okOr (lookup j.tid st)
      else if p.fails j.tid then .exc
      else okOr (p.behave j.tid (reads p (repr0 ts j.tid) (j.snap.getD []))) := by
  unfold runOutcome okOr
  rfl

theorem zo_okOr (x : Option Val) : zo (okOr x) = okOr (x.map (fun _ => 0)) := by
  cases x <;> rfl

theorem saveIfRan_zl (st : Store) (j : Job) (o : Outcome) :
    zl (saveIfRan p st j o) = saveIfRan (eraseP p okL) (zl st) (zj j) (zo o) := by
  cases o <;> simp only [saveIfRan, zo, apply_ite zl, zl_cons, zl_filter_ne]

theorem runEvents_zev (ts : TS) (j : Job) :
    (runEvents p ts j).map zev = runEvents (eraseP p okL) ts (zj j) := by
  simp only [runEvents, apply_ite (List.map zev), List.map_cons, List.map_nil, zev, ← reads_zl]
  cases j.snap <;> rfl

theorem jobEvents_zev (ts : TS) (j : Job) :
    (jobEvents p ts j).map zev = jobEvents (eraseP p okL) ts (zj j) := by
  simp only [jobEvents, apply_ite (List.map zev), List.map_nil, runEvents_zev p okL]

/-- the outcome of the value-free stub is the erased outcome, whenever the real outcome is the
    reference outcome and `okL` lists the tasks that have a reference value -/
theorem runOutcome_zo (store0 : Store) (obj : Tid → Iid) (okL : List Tid)
    (ts : TS) (st : Store) (j : Job)
    (ho : runOutcome p ts st j = refOutcome cfg p store0 obj j.tid) (hd : diesIn cfg p j.tid = false)
    (hok : (refEvalF cfg p store0 obj j.tid).isSome ↔ j.tid ∈ okL) :
    zo (runOutcome p ts st j) = runOutcome (eraseP p okL) ts (zl st) (zj j) := by
  simp only [refOutcome, hd, Bool.false_eq_true, if_false] at ho
  rw [runOutcome_eq] at ho ⊢
  rw [runOutcome_eq]
  show _ = (if j.useCache = true then okOr (lookup j.tid (zl st))
      else if p.fails j.tid = true then Outcome.exc
      else okOr (if j.tid ∈ okL then some 0 else none))
  by_cases huc : j.useCache = true
  · rw [if_pos huc, if_pos huc, zo_okOr, lookup_zl]
  · rw [if_neg huc] at ho
    rw [if_neg huc, if_neg huc]
    by_cases hf : p.fails j.tid = true
    · rw [if_pos hf, if_pos hf]; rfl
    · rw [if_neg hf] at ho
      rw [if_neg hf, if_neg hf]
      rw [zo_okOr]
      generalize p.behave j.tid (reads p (repr0 ts j.tid) (j.snap.getD [])) = b at ho ⊢
      have hb : b.isSome ↔ j.tid ∈ okL := by
        rw [← hok]
        cases b <;> cases hv : refEvalF cfg p store0 obj j.tid <;> rw [hv] at ho <;> simp [okOr] at ho ⊢
      cases b with
      | none => rw [if_neg (fun h => by simpa using hb.mpr h)]; rfl
      | some v => rw [if_pos (hb.mp rfl)]; rfl

theorem jobOutcome_zo (store0 : Store) (obj : Tid → Iid) (okL : List Tid)
    (ts : TS) (st : Store) (j : Job) (hb : cfg.backend ≠ .serial)
    (ho : jobOutcome p ts st j = refOutcome cfg p store0 obj j.tid)
    (hok : (refEvalF cfg p store0 obj j.tid).isSome ↔ j.tid ∈ okL) :
    zo (jobOutcome p ts st j) = jobOutcome (eraseP p okL) ts (zl st) (zj j) := by
  show zo (if p.dies j.tid = true then Outcome.died else runOutcome p ts st j)
    = (if p.dies j.tid = true then Outcome.died else runOutcome (eraseP p okL) ts (zl st) (zj j))
  have ho' : (if p.dies j.tid = true then Outcome.died else runOutcome p ts st j)
      = refOutcome cfg p store0 obj j.tid := ho
  by_cases hd : p.dies j.tid = true
  · rw [if_pos hd, if_pos hd]; rfl
  · rw [if_neg hd] at ho'
    rw [if_neg hd, if_neg hd]
    exact runOutcome_zo cfg p store0 obj okL ts st j ho'
      (by rw [diesIn_process cfg p _ hb]; simpa using hd) hok

theorem waitSerial_zrs (req : List Tid) (rs : RS)
    (ho : ∀ j rest, rs.queued = j :: rest →
      zo (runOutcome p rs.ts rs.store { j with snap := some rs.results })
        = runOutcome (eraseP p okL) rs.ts (zl rs.store) (zj { j with snap := some rs.results })) :
    zrs (waitSerial cfg p req rs) = waitSerial cfg (eraseP p okL) req (zrs rs) := by
  cases hq : rs.queued with
  | nil =>
    rw [waitSerial_nil cfg p req rs hq, waitSerial_nil cfg _ req (zrs rs) (by rw [zrs_queued, hq]; rfl)]
    simp only [zrs, List.map_append, List.map_cons, List.map_nil, zev, zj_tid_map]
  | cons j rest =>
    have hpre : zrs (serialPre p rs j rest) = serialPre (eraseP p okL) (zrs rs) (zj j) (rest.map zj) := by
      simp only [serialPre, zrs, List.map_append, List.map_cons, List.map_nil, zev, zj_tid_map,
        saveIfRan_zl p okL, ho j rest hq, runEvents_zev p okL]
      rfl
    rw [waitSerial_cons cfg p req rs j rest hq,
      waitSerial_cons cfg _ req (zrs rs) (zj j) (rest.map zj) (by rw [zrs_queued, hq]; rfl),
      processYield_zrs, ← hpre, ho j rest hq]
    rfl

theorem enum_filter_map {α β} (f : α → β) (q : Nat → Bool) : ∀ (l : List α) (n : Nat),
    ((enumFrom n (l.map f)).filter (fun ij => q ij.1)).map (·.2)
      = (((enumFrom n l).filter (fun ij => q ij.1)).map (·.2)).map f := by
  intro l
  induction l with
  | nil => intro n; rfl
  | cons x xs ih =>
    intro n
    simp only [List.map_cons, enumFrom, List.filter_cons]
    split
    · simp only [List.map_cons, ih]
    · exact ih _

theorem finJobs_zrs (c : Choice) (rs : RS) : finJobs c (zrs rs) = (finJobs c rs).map zj :=
  enum_filter_map zj c.finish rs.running 0

theorem stayJobs_zrs (c : Choice) (rs : RS) : stayJobs c (zrs rs) = (stayJobs c rs).map zj :=
  enum_filter_map zj (fun i => !c.finish i) rs.running 0

theorem saveAll_zl (store0 : Store) (ts : TS) :
    ∀ (js : List Job) (st : Store), (js.map Job.tid).Nodup →
      (∀ j ∈ js, lookup j.tid st = lookup j.tid store0) →
      (∀ j ∈ js, ∀ st', lookup j.tid st' = lookup j.tid store0 →
        zo (jobOutcome p ts st' j) = jobOutcome (eraseP p okL) ts (zl st') (zj j)) →
      zl (saveAll p ts js st) = saveAll (eraseP p okL) ts (js.map zj) (zl st) := by
  intro js
  induction js with
  | nil => intro st _ _ _; rfl
  | cons a js ih =>
    intro st hnd hst hout
    simp only [List.map_cons, List.nodup_cons] at hnd
    simp only [saveAll, List.map_cons]
    rw [← hout a List.mem_cons_self st (hst a List.mem_cons_self), ← saveIfRan_zl p okL]
    apply ih _ hnd.2 _ (fun j hj => hout j (List.mem_cons_of_mem _ hj))
    intro j hj
    have hne : j.tid ≠ a.tid := by
      intro heq
      exact hnd.1 (List.mem_map.mpr ⟨j, hj, heq⟩)
    rw [saveIfRan_lookup_ne p st a _ j.tid hne]
    exact hst j (List.mem_cons_of_mem _ hj)

theorem procPre_zrs (c : Choice) (rs : RS)
    (hsave : zl (saveAll p rs.ts (finJobs c rs) rs.store)
      = saveAll (eraseP p okL) rs.ts ((finJobs c rs).map zj) (zl rs.store)) :
    zrs (procPre p c rs) = procPre (eraseP p okL) c (zrs rs) := by
  have hev : ((finJobs c rs).map (jobEvents p rs.ts)).flatten.map zev
      = (((finJobs c rs).map zj).map (jobEvents (eraseP p okL) rs.ts)).flatten := by
    rw [List.map_flatten, List.map_map, List.map_map]
    exact congrArg _ (List.map_congr_left fun j _ => jobEvents_zev p okL rs.ts j)
  simp only [procPre, finJobs_zrs, stayJobs_zrs, zrs_ts, zrs_queued, zrs_running, zrs_store, zrs_trace]
  simp only [zrs, List.map_append, List.map_cons, List.map_nil, zev, zj_tid_map, hsave, hev]

theorem procYs_zrs (c : Choice) (rs : RS)
    (hout : ∀ j ∈ finJobs c rs,
      zo (jobOutcome p rs.ts rs.store j) = jobOutcome (eraseP p okL) rs.ts (zl rs.store) (zj j)) :
    (procYs p c rs).map zy = procYs (eraseP p okL) c (zrs rs) := by
  have hO : procOutcomes (eraseP p okL) c (zrs rs) = (procOutcomes p c rs).map zy := by
    simp only [procOutcomes, finJobs_zrs, List.map_map]
    apply List.map_congr_left
    intro j hj
    simp only [Function.comp, zy]
    rw [hout j hj]
    rfl
  simp only [procYs, hO, List.map_filterMap, zrs_futs]
  apply filterMap_congr'
  intro t _
  rw [List.find?_map]
  rfl

theorem waitProcess_zrs (store0 : Store) (req : List Tid)
    (c : Choice) (rs : RS) (hnd : ((finJobs c rs).map Job.tid).Nodup)
    (hst : ∀ j ∈ finJobs c rs, lookup j.tid rs.store = lookup j.tid store0)
    (hout : ∀ j ∈ finJobs c rs, ∀ st', lookup j.tid st' = lookup j.tid store0 →
      zo (jobOutcome p rs.ts st' j) = jobOutcome (eraseP p okL) rs.ts (zl st') (zj j)) :
    zrs (waitProcess cfg p req c rs) = waitProcess cfg (eraseP p okL) req c (zrs rs) := by
  rw [waitProcess_procPre, waitProcess_procPre, processYields_zrs, startProcesses_zrs,
    procPre_zrs p okL c rs (saveAll_zl p okL store0 rs.ts _ _ hnd hst hout),
    procYs_zrs p okL c rs (fun j hj => hout j hj rs.store (hst j hj))]

/-- the planned tasks that have a reference value -/
def okList (cfg : Config) (p : Problem) (store : Store) (obj : Tid → Iid) (fuel : Nat) : List Tid :=
  (plan cfg p store fuel).pending.filter (fun t => (refEvalF cfg p store obj t).isSome)

theorem mem_okList (store : Store) (obj : Tid → Iid) (fuel : Nat) (t : Tid)
    (ht : t ∈ (plan cfg p store fuel).pending) :
    (refEvalF cfg p store obj t).isSome ↔ t ∈ okList cfg p store obj fuel := by
  simp only [okList, List.mem_filter]
  exact ⟨fun h => ⟨ht, h⟩, fun h => h.2⟩

theorem iteration_zrs {cfg : Config} {p : Problem} {obj : Tid → Iid} {store0 : Store} {fuel : Nat}
    {rs : RS} (H : RefHypF p obj) (c : Choice) (h : LoopInv cfg p obj store0 fuel rs)
    (hrun : rs.status = .running) :
    zrs (iteration cfg p (reqTids p) c rs)
      = iteration cfg (eraseP p (okList cfg p store0 obj fuel)) (reqTids p) c (zrs rs) := by
  obtain ⟨hc, he, hst, hfS, hrS, _⟩ := submitPhase_loopInv h hrun
  have hsub : submitAll cfg (eraseP p (okList cfg p store0 obj fuel))
      (readyTasks (eraseP p (okList cfg p store0 obj fuel)) (zrs rs).ts) (zrs rs)
      = zrs (submitAll cfg p (readyTasks p rs.ts) rs) := by
    rw [zrs_ts, readyTasks_eraseP, submitAll_zrs]
  have hit : ∀ (q : Problem) (r : RS), iteration cfg q (reqTids p) c r =
      match (submitAll cfg q (readyTasks q r.ts) r).status with
      | .running => if cfg.backend = .serial then waitSerial cfg q (reqTids p) (submitAll cfg q (readyTasks q r.ts) r)
                    else waitProcess cfg q (reqTids p) c (submitAll cfg q (readyTasks q r.ts) r)
      | _ => submitAll cfg q (readyTasks q r.ts) r := by
    intro q r; rfl
  rw [hit, hit, hsub, zrs_status, hst]
  generalize submitAll cfg p (readyTasks p rs.ts) rs = rsS at *
  show zrs (if cfg.backend = .serial then _ else _) = (if cfg.backend = .serial then _ else _)
  have hokL : ∀ j ∈ rsS.queued ++ rsS.running,
      ((refEvalF cfg p store0 obj j.tid).isSome ↔ j.tid ∈ okList cfg p store0 obj fuel) := fun j hj =>
    mem_okList cfg p store0 obj fuel j.tid ((hc.ts.cover _).mpr (Or.inr (Or.inl (he.job_active hc j hj))))
  by_cases hb : cfg.backend = .serial
  · rw [if_pos hb, if_pos hb]
    apply waitSerial_zrs
    intro j rest hq
    exact runOutcome_zo cfg p store0 obj _ rsS.ts rsS.store { j with snap := some rsS.results }
      (serialOutcome_refF H hb hc he hfS hrS j rest hq) (diesIn_serial cfg p _ hb)
      (hokL j (by rw [hq]; simp))
  · rw [if_neg hb, if_neg hb]
    obtain ⟨_, _, _, _, hfinNd⟩ := waitProcess_explicit (reqTids p) c hb hc he
    apply waitProcess_zrs cfg p _ store0 (reqTids p) c rsS hfinNd (finJobs_frame c hc he (hfS.2 hst))
    intro j hj st' hst'
    exact jobOutcome_zo cfg p store0 obj _ rsS.ts st' j hb (finOutcome_refF H c hb hc he hfS hrS j hj st' hst')
      (hokL j (List.mem_append_right _ (finJobs_mem c rsS j hj)))

theorem runLoop_zrs {cfg : Config} {p : Problem} {obj : Tid → Iid} {store0 : Store} {fuel : Nat}
    (H : RefHypF p obj) :
    ∀ (sched : List Choice) (rs : RS), LoopInv cfg p obj store0 fuel rs →
      zrs (runLoop cfg p (reqTids p) sched rs)
        = runLoop cfg (eraseP p (okList cfg p store0 obj fuel)) (reqTids p) sched (zrs rs) := by
  intro sched
  induction sched with
  | nil => intro rs _; rfl
  | cons c cs ih =>
    intro rs h
    have hlc : loopCond (zrs rs) = loopCond rs := rfl
    simp only [runLoop, zrs_status, hlc]
    cases hrun : rs.status with
    | running =>
      simp only [zst]
      by_cases hl : loopCond rs = true
      · rw [if_pos hl, if_pos hl, ← iteration_zrs H c h hrun]
        exact ih _ (iteration_loopInv H c rs hrun h)
      · rw [if_neg hl, if_neg hl]
    | returned r => rfl
    | raised e => rfl

theorem finish_zrs (req : List Tid) (rs : RS) : zrs (finish req rs) = finish req (zrs rs) := by
  have hlc : loopCond (zrs rs) = loopCond rs := rfl
  simp only [finish, zrs_status, hlc]
  cases hs : rs.status with
  | running =>
    simp only [zst]
    by_cases hl : loopCond rs = true
    · rw [if_pos hl, if_pos hl]
    · rw [if_neg hl, if_neg hl]
      apply RS_ext <;> try rfl
      show zst (.returned _) = .returned _
      simp only [zst, zrs_taskResults, Status.returned.injEq, zl, List.map_filterMap]
      apply filterMap_congr'
      intro t _
      have := lookup_zl t rs.taskResults
      simp only [zl] at this
      rw [this]
      cases lookup t rs.taskResults <;> rfl
  | returned r => rfl
  | raised e => rfl

theorem initRS_zrs (store : Store) (fuel : Nat) :
    zrs (initRS cfg p store fuel) = initRS cfg (eraseP p okL) (zl store) fuel := by
  simp only [initRS, plan_eraseP]
  rfl
/-- erasing the values of a run = running the value-free stub on the erased cache pre-state -/
theorem run_zrs (store : Store) (fuel : Nat) (sched : List Choice)
    (obj : Tid → Iid) (H : RefHypF p obj) :
    zrs (run cfg p store fuel sched)
      = run cfg (eraseP p (okList cfg p store obj fuel)) (zl store) fuel sched := by
  show zrs (finish (reqTids p) (runLoop cfg p (reqTids p) sched (initRS cfg p store fuel))) = _
  rw [finish_zrs, runLoop_zrs H sched _ (initRS_loopInv cfg p obj store fuel), initRS_zrs]
  rfl

/-- same success pattern ⇒ the two runs are equal after erasing every value, in every configuration
    (a fail-fast run stops at the same first failure in both) -/
theorem run_erased_eq (b₂ : Tid → List (Option Val) → Option Val)
    (store : Store) (fuel : Nat) (sched : List Choice) (obj : Tid → Iid) (H : RefHypF p obj)
    (hpat : ∀ t ∈ (plan cfg p store fuel).pending,
      (refEvalF cfg p store obj t).isSome = (refEvalF cfg { p with behave := b₂ } store obj t).isSome) :
    zrs (run cfg p store fuel sched) = zrs (run cfg { p with behave := b₂ } store fuel sched) := by
  rw [run_zrs cfg p store fuel sched obj H,
    run_zrs cfg { p with behave := b₂ } store fuel sched obj ⟨H.acyc, H.inst, H.objOK⟩]
  have hok : okList cfg { p with behave := b₂ } store obj fuel = okList cfg p store obj fuel := by
    simp only [okList, plan_behave]
    apply List.filter_congr
    intro t ht
    exact (hpat t ht).symm
  rw [hok]

theorem run_shape_eq (b₂ : Tid → List (Option Val) → Option Val)
    (store : Store) (fuel : Nat) (sched : List Choice) (obj : Tid → Iid) (H : RefHypF p obj)
    (_ : cfg.contOnFail = true)
    (hpat : ∀ t ∈ (plan cfg p store fuel).pending,
      (refEvalF cfg p store obj t).isSome = (refEvalF cfg { p with behave := b₂ } store obj t).isSome) :
    zrs (run cfg p store fuel sched) = zrs (run cfg { p with behave := b₂ } store fuel sched) :=
  run_erased_eq cfg p b₂ store fuel sched obj H hpat

/-- a sufficient, value-free condition for "same success pattern": whether `run()` succeeds depends
    only on WHICH dependency reads succeed, in the same way for both behaviours -/
theorem same_pattern_of_uniform (b₂ : Tid → List (Option Val) → Option Val)
    (store : Store) (obj : Tid → Iid) (H : RefHypF p obj)
    (hu : ∀ t vs ws, vs.map Option.isSome = ws.map Option.isSome →
      (p.behave t vs).isSome = (b₂ t ws).isSome) :
    ∀ n i, p.tidOf i < n →
      (refEvalF cfg p store obj (p.tidOf i)).isSome
        = (refEvalF cfg { p with behave := b₂ } store obj (p.tidOf i)).isSome := by
  intro n
  induction n with
  | zero => intro i h; exact absurd h (Nat.not_lt_zero _)
  | succ n ih =>
    intro i hi
    have h2 := refEvalF_unfold cfg { p with behave := b₂ } store obj H.acyc H.objOK i
    rw [refEvalF_unfold cfg p store obj H.acyc H.objOK i]
    have h2' : refEvalF cfg { p with behave := b₂ } store obj (p.tidOf i) =
        if diesIn cfg p (p.tidOf i) then none
        else if useCache cfg p store (p.tidOf i) then lookup (p.tidOf i) store
        else if p.fails (p.tidOf i) then none
        else b₂ (p.tidOf i)
          (((p.children (obj (p.tidOf i))).map p.tidOf).map (refEvalF cfg { p with behave := b₂ } store obj)) := h2
    rw [h2']
    by_cases h1 : diesIn cfg p (p.tidOf i) = true
    · rw [if_pos h1, if_pos h1]
    · rw [if_neg h1, if_neg h1]
      by_cases h3 : useCache cfg p store (p.tidOf i) = true
      · rw [if_pos h3, if_pos h3]
      · rw [if_neg h3, if_neg h3]
        by_cases h4 : p.fails (p.tidOf i) = true
        · rw [if_pos h4, if_pos h4]
        · rw [if_neg h4, if_neg h4]
          apply hu
          rw [List.map_map, List.map_map, List.map_map, List.map_map]
          apply List.map_congr_left
          intro c hc
          have hlt := H.objOK.child_lt H.acyc i c hc
          exact ih c (Nat.lt_of_lt_of_le hlt (Nat.le_of_lt_succ hi))

end Lt
