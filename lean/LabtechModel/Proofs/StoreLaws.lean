import LabtechModel.Model.Store
/-! Map laws of the storage/cache model: the cache operations as equations over `persists`, what a
    save or delete leaves untouched, and how they show in the abstraction `abs`. -/
namespace Lt.Store

theorem foldl_inv {α β : Type} {P : β → Prop} {f : β → α → β} (l : List α)
    (h : ∀ b, ∀ a ∈ l, P b → P (f b a)) {b : β} (hb : P b) : P (l.foldl f b) := by
  induction l generalizing b with
  | nil => exact hb
  | cons a l ih =>
    exact ih (fun b x hx => h b x (List.mem_cons_of_mem _ hx)) (h b a (List.mem_cons_self ..) hb)

theorem lookup_dropKey (k k' : Key) (d : Disk) :
    lookup k' (dropKey k d) = if k' = k then none else lookup k' d := by
  induction d with
  | nil => simp [dropKey, lookup]
  | cons p ps ih =>
    by_cases hp : p.1 = k <;> by_cases hk : k' = k <;> simp_all [dropKey, lookup]
    intro h; exact absurd h.symm hk

theorem mem_dropKey (k : Key) (d : Disk) (q : Key × Entry) (h : q ∈ dropKey k d) : q ∈ d := by
  induction d with
  | nil => simp [dropKey] at h
  | cons p ps ih =>
    simp only [dropKey] at h
    split at h
    · exact List.mem_cons_of_mem _ (ih h)
    · rcases List.mem_cons.mp h with h | h
      · rw [h]; simp
      · exact List.mem_cons_of_mem _ (ih h)

theorem lookup_mem (k : Key) (e : Entry) (d : Disk) (h : lookup k d = some e) : (k, e) ∈ d := by
  induction d with
  | nil => simp [lookup] at h
  | cons p ps ih =>
    simp only [lookup] at h
    by_cases hp : p.1 = k
    · simp [hp] at h; subst h; subst hp; simp
    · simp [hp] at h; exact List.mem_cons_of_mem _ (ih h)

/-- every entry sits under the key of the task it names, with that task's cache class: what holds when
    all entries were written by `BaseCache.save` -/
def Wf (U : Universe) (d : Disk) : Prop :=
  ∀ k e, (k, e) ∈ d → k = keyOf U e.task ∧ e.key = k ∧ e.cls = kindOf U e.task ∧ e.cls ≠ .null ∧ e.task < U.n

/-- C07's conclusion, used as a hypothesis here: distinct tasks have distinct cache keys -/
def KeyInj (U : Universe) : Prop := ∀ t t', keyOf U t = keyOf U t' → t = t'

theorem wf_nil (U : Universe) : Wf U [] := by intro k e h; simp at h

section
variable {U : Universe} {d : Disk} {k : Key} {e : Entry} (wf : Wf U d) (h : (k, e) ∈ d)
include wf h
theorem Wf.key : k = keyOf U e.task := (wf k e h).1
theorem Wf.entryKey : e.key = k := (wf k e h).2.1
theorem Wf.cls : e.cls = kindOf U e.task := (wf k e h).2.2.1
theorem Wf.lt : e.task < U.n := (wf k e h).2.2.2.2
end

/-- with injective keys, the entry found under the key of `t` names `t` -/
theorem Wf.task {U : Universe} {d : Disk} (wf : Wf U d) (hinj : KeyInj U) {t : Tid} {e : Entry}
    (h : lookup (keyOf U t) d = some e) : e.task = t :=
  (hinj _ _ (wf.key (lookup_mem _ _ _ h))).symm

theorem wf_dropKey (U : Universe) (d : Disk) (k : Key) (h : Wf U d) : Wf U (dropKey k d) := by
  intro k' e hm
  exact h k' e (mem_dropKey k d _ hm)

theorem cSave_eq (U : Universe) (d : Disk) (t : Tid) (r : Stored) :
    cSave U d t r = if persists U t then
      (keyOf U t, { cls := kindOf U t, key := keyOf U t, task := t, start := r.start, dur := r.dur, data := r.val })
        :: dropKey (keyOf U t) d else d := by
  unfold cSave sPut persists cacheable
  generalize kindOf U t = c; generalize U.nullStorage = ns
  cases c <;> cases ns <;> rfl

theorem cDelete_eq (U : Universe) (d : Disk) (t : Tid) :
    cDelete U d t = if persists U t then dropKey (keyOf U t) d else d := by
  unfold cDelete sDelete persists cacheable
  generalize kindOf U t = c; generalize U.nullStorage = ns
  cases c <;> cases ns <;> rfl

theorem cIsCached_eq (U : Universe) (d : Disk) (t : Tid) :
    cIsCached U d t = (persists U t && (lookup (keyOf U t) d).isSome) := by
  unfold cIsCached sExists persists cacheable
  generalize kindOf U t = c; generalize U.nullStorage = ns
  cases c <;> cases ns <;> rfl

theorem cLoad_eq (U : Universe) (d : Disk) (t : Tid) :
    cLoad U d t = if persists U t then
      (lookup (keyOf U t) d).bind fun e =>
        if e.cls = kindOf U t then some { val := e.data, start := e.start, dur := e.dur } else none
      else none := by
  unfold cLoad persists cacheable
  generalize lookup (keyOf U t) d = o; generalize kindOf U t = c; generalize U.nullStorage = ns
  cases c <;> cases ns <;> cases o <;> rfl

theorem cLoad_eq_some {U : Universe} {d : Disk} {t : Tid} {s : Stored} :
    cLoad U d t = some s ↔ persists U t = true ∧ ∃ e, lookup (keyOf U t) d = some e ∧ e.cls = kindOf U t ∧
      s = { val := e.data, start := e.start, dur := e.dur } := by
  rw [cLoad_eq]
  cases persists U t <;> cases lookup (keyOf U t) d <;> simp [eq_comm]

theorem persists_iff {U : Universe} {t : Tid} :
    persists U t = true ↔ kindOf U t ≠ .null ∧ U.nullStorage = false := by
  simp [persists, cacheable]

theorem wf_save (U : Universe) (d : Disk) (t : Tid) (r : Stored) (h : Wf U d) (ht : t < U.n) :
    Wf U (cSave U d t r) := by
  rw [cSave_eq]; split
  · next hp =>
    intro k e hm
    rcases List.mem_cons.mp hm with hm | hm
    · cases hm; exact ⟨rfl, rfl, rfl, (persists_iff.mp hp).1, ht⟩
    · exact wf_dropKey U d _ h k e hm
  · exact h

theorem wf_delete (U : Universe) (d : Disk) (t : Tid) (h : Wf U d) : Wf U (cDelete U d t) := by
  rw [cDelete_eq]; split
  · exact wf_dropKey U d _ h
  · exact h

theorem lookup_save_other (U : Universe) (d : Disk) (t : Tid) (r : Stored) (k : Key) (h : k ≠ keyOf U t) :
    lookup k (cSave U d t r) = lookup k d := by
  rw [cSave_eq]; split
  · simp [lookup, lookup_dropKey, h, Ne.symm h]
  · rfl

theorem lookup_delete_other (U : Universe) (d : Disk) (t : Tid) (k : Key) (h : k ≠ keyOf U t) :
    lookup k (cDelete U d t) = lookup k d := by
  rw [cDelete_eq]; split
  · simp [lookup_dropKey, h]
  · rfl

theorem cLoad_congr (U : Universe) (d d' : Disk) (t : Tid) (h : lookup (keyOf U t) d' = lookup (keyOf U t) d) :
    cLoad U d' t = cLoad U d t := by
  rw [cLoad_eq, cLoad_eq, h]

theorem cIsCached_congr (U : Universe) (d d' : Disk) (t : Tid) (h : lookup (keyOf U t) d' = lookup (keyOf U t) d) :
    cIsCached U d' t = cIsCached U d t := by
  rw [cIsCached_eq, cIsCached_eq, h]

theorem cLoad_save_same (U : Universe) (d : Disk) (t : Tid) (r : Stored)
    (hc : cacheable U t = true) (hs : U.nullStorage = false) : cLoad U (cSave U d t r) t = some r := by
  have hp := persists_iff.mpr ⟨by simpa [cacheable] using hc, hs⟩
  simp [cLoad_eq, cSave_eq, hp, lookup]

theorem cLoad_delete_same (U : Universe) (d : Disk) (t : Tid) : cLoad U (cDelete U d t) t = none := by
  rw [cLoad_eq, cDelete_eq]; split <;> simp [lookup_dropKey, *]

/-- on a well-formed disk "the key directory exists" and "a load succeeds" are the same thing -/
theorem isCached_iff_load (U : Universe) (d : Disk) (t : Tid) (h : Wf U d) (hinj : KeyInj U) :
    cIsCached U d t = (cLoad U d t).isSome := by
  rw [cIsCached_eq, cLoad_eq]
  cases hl : lookup (keyOf U t) d with
  | none => simp
  | some e =>
    -- the entry under the key of `t` names `t`, so it carries the cache class of `t`
    have hc := h.cls (lookup_mem _ _ _ hl)
    rw [h.task hinj hl] at hc
    cases persists U t <;> simp [hc]

theorem labIsCached_eq (U : Universe) (d : Disk) (t : Tid) (h : Wf U d) (hinj : KeyInj U) :
    labIsCached U d t = (abs U d t).isSome := isCached_iff_load U d t h hinj

/-- the `use_cache` test of a run, on the disk and on its abstraction -/
theorem useCache_abs (U : Universe) (d : Disk) (bust : Bool) (h : Wf U d) (hinj : KeyInj U) :
    (fun t => !bust && labIsCached U d t) = fun t => !bust && (abs U d t).isSome :=
  funext fun t => by rw [labIsCached_eq U d t h hinj]

theorem abs_save (U : Universe) (d : Disk) (t : Tid) (r : Stored) (hinj : KeyInj U) :
    abs U (cSave U d t r) = if persists U t then aUpdate (abs U d) t r else abs U d := by
  split
  · next hp =>
    funext x
    simp only [abs, aUpdate]
    by_cases hx : x = t
    · subst hx; simp [cLoad_eq, cSave_eq, hp, lookup]
    · simp only [hx, if_false]
      exact cLoad_congr _ _ _ _ (lookup_save_other _ _ _ _ _ fun hk => hx (hinj _ _ hk))
  · next hp => rw [cSave_eq, if_neg hp]

theorem abs_delete (U : Universe) (d : Disk) (t : Tid) (hinj : KeyInj U) :
    abs U (cDelete U d t) = aRemove (abs U d) t := by
  funext x
  simp only [abs, aRemove]
  by_cases hx : x = t
  · subst hx; simp [cLoad_delete_same]
  · simp only [hx, if_false]
    exact cLoad_congr _ _ _ _ (lookup_delete_other _ _ _ _ fun hk => hx (hinj _ _ hk))

end Lt.Store
