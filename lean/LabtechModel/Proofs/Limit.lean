import LabtechModel.Proofs.RunSteps
namespace Lt

def LimitOK (p : Problem) (active : List Tid) : Prop :=
  ∀ T L, p.maxPar T = some L → typeCount p active T ≤ L

theorem typeCount_append (p : Problem) (a b : List Tid) (T : Nat) :
    typeCount p (a ++ b) T = typeCount p a T + typeCount p b T := by
  simp [typeCount, List.filter_append]

theorem typeCount_sublist_le (p : Problem) {a b : List Tid} (h : a.Sublist b) (T : Nat) :
    typeCount p a T ≤ typeCount p b T :=
  (h.filter _).length_le

theorem typeCount_filter_le (p : Problem) (a : List Tid) (q : Tid → Bool) (T : Nat) :
    typeCount p (a.filter q) T ≤ typeCount p a T :=
  typeCount_sublist_le p List.filter_sublist T

theorem readyAux_limit (p : Problem) (s : TS) (T L : Nat) (hL : p.maxPar T = some L) :
    ∀ (l : List Tid) (c : Nat → Nat), c T ≤ L →
      c T + typeCount p (readyAux p s l c) T ≤ L := by
  intro l
  induction l with
  | nil => intro c h; simp [readyAux, typeCount]; exact h
  | cons t rest ih =>
    intro c h
    have h1 := ih c h
    have h2 := ih (bump c (p.ty t))
    simp only [readyAux, typeCount, bump] at *
    grind

theorem submitAll_active (cfg : Config) (p : Problem) :
    ∀ (l : List Tid) (rs : RS), ∃ k, (submitAll cfg p l rs).ts.active = rs.ts.active ++ l.take k := by
  intro l
  induction l with
  | nil => intro rs; exact ⟨0, by simp [submitAll]⟩
  | cons t ts ih =>
    intro rs
    simp only [submitAll]
    split
    · exact ⟨0, by simp⟩
    · next s' hs =>
      obtain ⟨k, hk⟩ := ih (submitTask cfg p { rs with ts := s' } t)
      refine ⟨k + 1, ?_⟩
      rw [hk, submitTask_ts, (startTask_some _ _ _ hs).2]
      simp

theorem submitAll_limit (cfg : Config) (p : Problem) (rs : RS) (h : LimitOK p rs.ts.active) :
    LimitOK p (submitAll cfg p (readyTasks p rs.ts) rs).ts.active := by
  intro T L hL
  obtain ⟨k, hk⟩ := submitAll_active cfg p (readyTasks p rs.ts) rs
  rw [hk, typeCount_append]
  have h1 := readyAux_limit p rs.ts T L hL rs.ts.pending (typeCount p rs.ts.active) (h T L hL)
  have h2 := typeCount_sublist_le p (List.take_sublist k (readyTasks p rs.ts)) T
  simp only [readyTasks] at h2 ⊢
  omega

theorem readyAux_no_pending_deps (p : Problem) (s : TS) :
    ∀ (l : List Tid) (c : Nat → Nat) (t : Tid), t ∈ readyAux p s l c → s.pendDeps t = [] ∧ t ∈ l := by
  intro l
  induction l with
  | nil => intro c t h; simp [readyAux] at h
  | cons x rest ih =>
    intro c t h
    have h1 := ih c t
    have h2 := ih (bump c (p.ty x)) t
    have hnil := @List.length_pos_iff _ (s.pendDeps x)
    simp only [readyAux, List.mem_cons] at *
    grind

theorem readyTasks_no_pending_deps (p : Problem) (s : TS) (t : Tid) (h : t ∈ readyTasks p s) :
    s.pendDeps t = [] ∧ t ∈ s.pending :=
  readyAux_no_pending_deps p s s.pending _ t h

/-- the ready list is a sublist of the list it walks: order of `pending_tasks` is kept and no
    task is listed twice when pending has no duplicates -/
theorem readyAux_sublist (p : Problem) (s : TS) :
    ∀ (l : List Tid) (c : Nat → Nat), (readyAux p s l c).Sublist l := by
  intro l
  induction l with
  | nil => intro c; simp [readyAux]
  | cons x rest ih =>
    intro c
    simp only [readyAux]
    split
    · exact (ih c).cons x
    · split
      · split
        · exact (ih c).cons x
        · exact (ih _).cons_cons x
      · exact (ih _).cons_cons x

theorem processYield_limit (cfg : Config) (p : Problem) (req : List Tid) (rs : RS) (t : Tid) (o : Outcome)
    (h : LimitOK p rs.ts.active) : LimitOK p (processYield cfg req rs t o).ts.active := by
  rcases processYield_ts cfg req rs t o with h1 | ⟨s', rem, hc, h1⟩
  · rw [h1]; exact h
  · rw [h1, completeTask_active _ _ _ _ hc]
    exact fun T L hL => Nat.le_trans (typeCount_filter_le p _ _ T) (h T L hL)

/-- only the submit phase adds active tasks, and it adds what `get_ready_tasks` let through -/
theorem limit_stepInv (cfg : Config) (p : Problem) (req : List Tid) :
    StepInv cfg p req (fun rs => LimitOK p rs.ts.active) where
  submit := submitAll_limit cfg p
  idle := fun _ _ h => h
  serial := fun _ _ _ _ _ h => h
  proc := fun _ c rs h => by rw [startProcesses_ts]; exact h
  yield := fun rs t o h => processYield_limit cfg p req _ t o h

theorem runLoop_limit (cfg : Config) (p : Problem) (req : List Tid) (sched : List Choice) (rs : RS)
    (h : LimitOK p rs.ts.active) : LimitOK p (runLoop cfg p req sched rs).ts.active :=
  (limit_stepInv cfg p req).runLoop sched rs h

end Lt
