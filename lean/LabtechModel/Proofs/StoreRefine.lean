import LabtechModel.Proofs.StoreLaws
/-! Refinement of the concrete Lab operations (key directories) to the specification map. -/
namespace Lt.Store

/-- the coupling between a concrete and a specification run in progress -/
structure R (U : Universe) (c : Acc) (a : AAcc) : Prop where
  wf : Wf U c.disk
  map : abs U c.disk = a.map
  vals : c.vals = a.vals
  execd : c.execd = a.execd
  loaded : c.loaded = a.loaded

theorem R.load {U : Universe} {c : Acc} {a : AAcc} (h : R U c a) (t : Tid) : cLoad U c.disk t = a.map t :=
  congrFun h.map t

theorem step_refines (U : Universe) (hinj : KeyInj U) (bust : Bool) (g : Nat) (fl : List Tid) (c : Acc) (a : AAcc) (t : Tid)
    (ht : t < U.n) (h : R U c a) : R U (stepC U bust g fl c t) (stepA U bust g fl a t) := by
  have hl := h.load t
  obtain ⟨wf, hm, hv, he, hld⟩ := h
  unfold stepC stepA
  -- served from the cache iff not busting and the map has the task
  generalize ho : (if bust then none else a.map t) = o
  have hc : (!bust && labIsCached U c.disk t) = o.isSome := by
    rw [labIsCached_eq U c.disk t wf hinj, hm, ← ho]; cases bust <;> rfl
  rw [hc]
  cases o with
  | some s =>
    have : cLoad U c.disk t = some s := by cases bust <;> simp_all
    simp only [Option.isSome_some, if_true, this]
    exact ⟨wf, hm, by rw [hv], he, by rw [hld]⟩
  | none =>
    simp only [Option.isSome_none, Bool.false_eq_true, if_false, hv]
    cases runTask U g fl a.vals t with
    | none => exact ⟨wf, hm, rfl, by rw [he], hld⟩
    | some v => exact ⟨wf_save U _ t _ wf ht, by rw [abs_save U _ t _ hinj, hm], rfl, by rw [he], hld⟩

theorem fold_refines (U : Universe) (hinj : KeyInj U) (bust : Bool) (g : Nat) (fl : List Tid) (l : List Tid)
    (hl : ∀ t ∈ l, t < U.n) (c : Acc) (a : AAcc) (h : R U c a) :
    R U (l.foldl (stepC U bust g fl) c) (l.foldl (stepA U bust g fl) a) := by
  induction l generalizing c a with
  | nil => exact h
  | cons t ts ih =>
    simp only [List.foldl]
    exact ih (fun x hx => hl x (List.mem_cons_of_mem _ hx)) _ _
      (step_refines U hinj bust g fl c a t (hl t (List.mem_cons_self ..)) h)

theorem neededFrom_lt (U : Universe) (uc : Tid → Bool) (req : List Tid) (t : Tid)
    (h : t ∈ neededFrom U uc req) : t < U.n := by
  refine foldl_inv (P := fun acc : List Tid => ∀ t ∈ acc, t < U.n) _ (fun acc a ha hacc => ?_) (by simp) t h
  split
  · intro t ht
    rcases List.mem_cons.mp ht with rfl | ht
    · simpa using ha
    · exact hacc t ht
  · exact hacc

theorem run_refines (U : Universe) (hinj : KeyInj U) (bust : Bool) (g : Nat) (fl : List Tid) (req : List Tid) (d : Disk)
    (wf : Wf U d) : R U (labRun U bust g fl req d) (specRun U bust g fl req (abs U d)) := by
  unfold labRun specRun
  rw [useCache_abs U d bust wf hinj]
  apply fold_refines U hinj bust g fl _ (fun t ht => neededFrom_lt U _ req t ht)
  exact ⟨wf, rfl, rfl, rfl, rfl⟩

theorem uncache_refines (U : Universe) (hinj : KeyInj U) (ts : List Tid) (d : Disk) (wf : Wf U d) :
    Wf U (labUncache U d ts) ∧ abs U (labUncache U d ts) = specUncache (abs U d) ts := by
  induction ts generalizing d with
  | nil => exact ⟨wf, rfl⟩
  | cons t ts ih =>
    simp only [labUncache]
    have hstep : Wf U (if labIsCached U d t then cDelete U d t else d) ∧
        abs U (if labIsCached U d t then cDelete U d t else d) = aRemove (abs U d) t := by
      split
      · exact ⟨wf_delete U d t wf, abs_delete U d t hinj⟩
      · next hc =>
        -- not cached: nothing loads for `t`, and removing it changes nothing
        rw [labIsCached_eq U d t wf hinj] at hc
        refine ⟨wf, funext fun x => ?_⟩
        simp only [aRemove]; split
        · next hx => rw [hx]; simpa [abs] using hc
        · rfl
    obtain ⟨w1, a1⟩ := ih _ hstep.1
    refine ⟨w1, ?_⟩
    rw [a1, hstep.2]
    funext x
    by_cases hx : x = t <;> simp [specUncache, aRemove, hx]

theorem mem_insertSorted (k x : Key) (l : List Key) : x ∈ insertSorted k l ↔ x = k ∨ x ∈ l := by
  induction l with
  | nil => simp [insertSorted]
  | cons y ys ih =>
    simp only [insertSorted]
    split
    · simp
    · simp only [List.mem_cons, ih]
      constructor
      · rintro (h | h | h) <;> simp [h]
      · rintro (h | h | h) <;> simp [h]

theorem mem_sortKeys (x : Key) (l : List Key) : x ∈ sortKeys l ↔ x ∈ l := by
  induction l with
  | nil => simp [sortKeys]
  | cons y ys ih => simp [sortKeys, mem_insertSorted, ih]

theorem mem_sFindKeys {U : Universe} {d : Disk} {k : Key} :
    k ∈ sFindKeys U d ↔ U.nullStorage = false ∧ k ∈ d.map (·.1) := by
  unfold sFindKeys
  cases U.nullStorage <;> simp [mem_sortKeys]

theorem lookup_some_of_mem_keys (k : Key) (d : Disk) (h : k ∈ d.map (·.1)) : ∃ e, lookup k d = some e := by
  induction d with
  | nil => simp at h
  | cons p ps ih =>
    simp only [lookup]
    split
    · exact ⟨_, rfl⟩
    · next hp => exact ih ((List.mem_cons.mp h).resolve_left fun e => hp e.symm)

theorem cLoadTask_eq_some {U : Universe} {d : Disk} {T : Nat} {k : Key} {t : Tid} :
    cLoadTask U d T k = some t ↔ U.cacheOf T ≠ .null ∧ k.cls = U.cacheOf T ∧ U.namePrefix T k.ty = true ∧
      ∃ e, lookup k d = some e ∧ e.cls = U.cacheOf T ∧ U.ty e.task = T ∧ e.task = t := by
  unfold cLoadTask
  generalize U.cacheOf T = c
  cases c <;> cases lookup k d <;> simp [and_assoc]

/-- `cached_tasks` finds a task under a key iff some listed type loads it from there: any two types that
    succeed on the key yield the task named in the entry at that key -/
theorem firstType_eq_some {U : Universe} {d : Disk} {k : Key} {types : List Nat} {t : Tid} :
    firstType U d k types = some t ↔ ∃ T ∈ types, cLoadTask U d T k = some t := by
  induction types with
  | nil => simp [firstType]
  | cons T Ts ih =>
    simp only [firstType, List.mem_cons, exists_eq_or_imp]
    cases hc : cLoadTask U d T k with
    | none => simp [ih]
    | some t' =>
      refine ⟨fun h => Or.inl h, ?_⟩
      rintro (h | ⟨T', -, h⟩)
      · exact h
      · obtain ⟨_, _, _, e, he, _, _, ht⟩ := cLoadTask_eq_some.mp h
        obtain ⟨_, _, _, e', he', _, _, ht'⟩ := cLoadTask_eq_some.mp hc
        rw [he] at he'; cases he'
        rw [← ht, ← ht']

theorem cachedTasks_refines (U : Universe) (hinj : KeyInj U) (hpre : ∀ T, U.namePrefix T T = true)
    (types : List Nat) (d : Disk) (wf : Wf U d) (t : Tid) :
    t ∈ labCachedTasks U d types ↔ t ∈ specCachedTasks U (abs U d) types := by
  unfold labCachedTasks specCachedTasks
  simp only [List.mem_filterMap, List.mem_filter, List.mem_range, Bool.and_eq_true, List.contains_iff_mem,
    Option.isSome_iff_exists, abs, cLoad_eq_some]
  constructor
  · -- a listed task: some type loads it from a key that `find_keys` found; the entry there names it
    rintro ⟨k, hk, hf⟩
    have hns := (mem_sFindKeys.mp hk).1
    obtain ⟨T, hT, hl⟩ := firstType_eq_some.mp hf
    obtain ⟨hnn, -, -, e, he, hcls, hty, het⟩ := cLoadTask_eq_some.mp hl
    have hm := lookup_mem k e d he
    rw [het] at hty
    have hk' : kindOf U t = U.cacheOf T := by unfold kindOf; rw [hty]
    refine ⟨het ▸ wf.lt hm, hty ▸ hT, _, ?_, e, het ▸ wf.key hm ▸ he, hcls.trans hk'.symm, rfl⟩
    exact persists_iff.mpr ⟨hk' ▸ hnn, hns⟩
  · -- a task of a listed type with an entry that loads: its own key is found, its own type loads it
    rintro ⟨-, hty, _, hp, e, he, hcls, -⟩
    have hm := lookup_mem _ e d he
    have het := wf.task hinj he
    refine ⟨keyOf U t, ?_, firstType_eq_some.mpr ⟨U.ty t, hty,
      cLoadTask_eq_some.mpr ⟨(persists_iff.mp hp).1, rfl, hpre _, e, he, hcls, by rw [het], het⟩⟩⟩
    exact mem_sFindKeys.mpr ⟨(persists_iff.mp hp).2, List.mem_map.mpr ⟨_, hm, rfl⟩⟩

end Lt.Store
