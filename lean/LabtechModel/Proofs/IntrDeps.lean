import LabtechModel.Proofs.IntrGuard
import LabtechModel.Proofs.IntrRefine
/-!
# M10: "no task starts before its dependencies have finished" holds after EVERY primitive

`DI P s` (`P` = the plan): every `submit t` / `start t` / `exec t` event of the trace of `s` is
preceded by a `yield d` of every recorded direct dependency `d` of `t` (`hist`), carried by
* `pdY`  : a recorded dependency that has left `task_to_pending_dependencies[x]` has been yielded
           (the set shrinks only in `complete_task(d)`, which runs after the `yield d`);
* `qRdy`, `rRdy`, `cRdy`: every submission that is queued, running, or popped by the serial runner
           belongs to a task all of whose dependencies have been yielded.
The only primitives that need a side condition (`DG`) are the ones that put a task on the way to a
worker (`enqueue`, `serialAppend`, `procStart`) and `unblockOne`; the side conditions are facts about
the trace that stay true when the trace grows, so they can be checked at the head of a block
(`always_DI_guard`). The block lemmas (`always_DI_*`) make `DI_walk`, and `Walk` carries `DI` through the
main stream, the first handler's stream and the second handler's stream: it holds after every prefix of
each of them, from ANY state with `DI`.
-/
namespace Lt

variable {cfg : Config} {p : Problem}

/-- every recorded direct dependency of `t` has been yielded in `tr` -/
def Rdy (P : TS) (tr : List Ev) (t : Tid) : Prop := ∀ d ∈ P.ddeps t, d ∈ yieldedOf tr

theorem Rdy.mono {P : TS} {tr : List Ev} {t : Tid} (h : Rdy P tr t) (l : List Ev) : Rdy P (tr ++ l) t :=
  fun d hd => yieldedOf_mono _ _ _ (h d hd)

/-- what must hold of an event relative to the trace before it -/
def DepOK (P : TS) (pre : List Ev) : Ev → Prop
  | .submit t _ => Rdy P pre t
  | .start t => Rdy P pre t
  | .exec t _ => Rdy P pre t
  | _ => True

structure DI (P : TS) (s : IS) : Prop where
  hist : Hist (DepOK P) s.rs.trace
  pdY : ∀ x, ∀ d ∈ P.ddeps x, d ∈ s.rs.ts.pendDeps x ∨ d ∈ yieldedOf s.rs.trace
  qRdy : ∀ j ∈ s.rs.queued, Rdy P s.rs.trace j.tid
  rRdy : ∀ j ∈ s.rs.running, Rdy P s.rs.trace j.tid
  cRdy : ∀ j, s.cur = some j → Rdy P s.rs.trace j.tid

theorem DI.transfer {P : TS} {s s' : IS} (h : DI P s) (l : List Ev)
    (htr : s'.rs.trace = s.rs.trace ++ l)
    (hh : Hist (DepOK P) (s.rs.trace ++ l))
    (hpd : ∀ x d, d ∈ s.rs.ts.pendDeps x → d ∈ s'.rs.ts.pendDeps x ∨ d ∈ yieldedOf (s.rs.trace ++ l))
    (hq : ∀ j ∈ s'.rs.queued, Rdy P s.rs.trace j.tid)
    (hr : ∀ j ∈ s'.rs.running, Rdy P s.rs.trace j.tid)
    (hc : ∀ j, s'.cur = some j → Rdy P s.rs.trace j.tid) : DI P s' where
  hist := by rw [htr]; exact hh
  pdY := by
    intro x d hd
    rw [htr]
    rcases h.pdY x d hd with h1 | h1
    · exact hpd x d h1
    · exact Or.inr (yieldedOf_mono _ _ _ h1)
  qRdy := fun j hj => by rw [htr]; exact (hq j hj).mono l
  rRdy := fun j hj => by rw [htr]; exact (hr j hj).mono l
  cRdy := fun j hj => by rw [htr]; exact (hc j hj).mono l

/-- nothing that `DI` reads has changed -/
theorem DI.same {P : TS} {s s' : IS} (h : DI P s) (htr : s'.rs.trace = s.rs.trace)
    (hpd : s'.rs.ts.pendDeps = s.rs.ts.pendDeps) (hq : ∀ j ∈ s'.rs.queued, j ∈ s.rs.queued)
    (hr : ∀ j ∈ s'.rs.running, j ∈ s.rs.running) (hc : s'.cur = s.cur) : DI P s' :=
  h.transfer [] (by simpa using htr) (by simpa using h.hist)
    (fun x d hd => Or.inl (by rw [hpd]; exact hd))
    (fun j hj => h.qRdy j (hq j hj)) (fun j hj => h.rRdy j (hr j hj))
    (fun j hj => h.cRdy j (by rw [← hc]; exact hj))

/-- reading of `DI.hist`: the property as a statement about the trace -/
theorem DI.after_deps {P : TS} {s : IS} (h : DI P s) (pre post : List Ev) (e : Ev) (t : Tid)
    (he : (∃ uc, e = Ev.submit t uc) ∨ e = Ev.start t ∨ (∃ seen, e = Ev.exec t seen))
    (htr : s.rs.trace = pre ++ e :: post) : ∀ d ∈ P.ddeps t, ∃ o, Ev.yield d o ∈ pre := by
  have hq := h.hist pre e post htr
  intro d hd
  rw [← mem_yieldedOf]
  rcases he with ⟨uc, rfl⟩ | rfl | ⟨seen, rfl⟩ <;> exact hq d hd

def DG (P : TS) (tr : List Ev) : Prim → Prop
  | .enqueue t | .serialAppend t | .procStart t => Rdy P tr t
  | .unblockOne t _ => t ∈ yieldedOf tr
  | _ => True

theorem DG.mono {P : TS} {tr : List Ev} {q : Prim} (h : DG P tr q) (l : List Ev) : DG P (tr ++ l) q := by
  cases q <;> simp only [DG] at h ⊢
  case enqueue t => exact h.mono l
  case serialAppend t => exact h.mono l
  case procStart t => exact h.mono l
  case unblockOne t d => exact yieldedOf_mono _ _ _ h

/-- primitives without a side condition -/
def Prim.dfree : Prim → Bool
  | .enqueue _ | .serialAppend _ | .procStart _ | .unblockOne _ _ => false
  | _ => true

theorem DG_of_free {P : TS} {tr : List Ev} {q : Prim} (h : q.dfree = true) : DG P tr q := by
  cases q <;> first | exact True.intro | cases h

theorem dfree_of_nolaunch_ts {q : Prim} (h : q.launches = false) (h2 : q.touchesTS = false) : q.dfree = true := by
  cases q <;> first | rfl | (cases h; done) | cases h2

theorem DepOK_jobEvents {P : TS} (ts : TS) (tr : List Ev) (j : Job) (h : Rdy P tr j.tid) :
    ∀ e ∈ jobEvents p ts j, DepOK P tr e := by
  intro e he
  rcases jobEvents_cases p ts j e he with rfl | rfl
  · trivial
  · exact h

theorem DepOK_runEvents {P : TS} (ts : TS) (tr : List Ev) (j : Job) (h : Rdy P tr j.tid) :
    ∀ e ∈ runEvents p ts j, DepOK P tr e := by
  intro e he
  rcases runEvents_cases p ts j e he with rfl | rfl
  · trivial
  · exact h

theorem DI_enqueue {P : TS} (t : Tid) (s : IS) (h : DI P s) (hg : Rdy P s.rs.trace t) :
    DI P (stepPrim cfg p (Prim.enqueue t) s) := by
  simp only [stepPrim]
  refine h.transfer [Ev.submit t (mkJob cfg p s.rs t).useCache] rfl (h.hist.snoc hg)
    (fun _ _ hd => Or.inl hd) ?_ h.rRdy h.cRdy
  intro j hj
  rcases List.mem_append.mp hj with hj | hj
  · exact h.qRdy j hj
  · rw [List.mem_singleton.mp hj]; exact hg

theorem DI_step {P : TS} (q : Prim) (s : IS) (h : DI P s) (hg : s.rs.status = .running → DG P s.rs.trace q) :
    DI P (applyPrim cfg p q s) := by
  by_cases hd : q.touchesWork = false ∧ q.isUnblock = false
  · obtain ⟨e1, e2, e3, e4⟩ := applyPrim_work q s hd.1
    exact h.same e1 (applyPrim_pendDeps q s hd.2) (fun _ hj => e3.subset hj) (fun _ hj => e4.subset hj) e2
  by_cases hrun : ¬ s.rs.status = .running
  · rw [applyPrim_stopped q s hrun]; exact h
  replace hg := hg (Decidable.not_not.mp hrun)
  rw [applyPrim_running q s (Decidable.not_not.mp hrun)]
  cases q <;> simp [Prim.touchesWork, Prim.isUnblock] at hd
  case enqueue t => exact DI_enqueue t s h hg
  case serialAppend t =>
    rw [serialAppend_eq]
    exact (DI_enqueue t s h hg).same rfl rfl (fun _ hj => hj) (fun _ hj => hj) rfl
  case procStart t =>
    simp only [stepPrim]
    exact h.transfer [Ev.start t] rfl (h.hist.snoc hg) (fun _ _ hd => Or.inl hd) h.qRdy h.rRdy h.cRdy
  case regRunning t =>
    simp only [stepPrim]
    cases hf : s.rs.queued.find? (hasTid t) with
    | none => exact h
    | some j =>
      refine h.transfer [] (by simp) (by simpa using h.hist) (fun _ _ hd => Or.inl (by simpa using hd))
        h.qRdy ?_ h.cRdy
      intro j' hj'
      simp only [List.mem_append, List.mem_singleton] at hj'
      rcases hj' with hj' | rfl
      · exact h.rRdy j' hj'
      · rw [forkSnap_tid]; exact h.qRdy j (List.mem_of_find?_eq_some hf)
  case consumeResults c =>
    simp only [stepPrim]
    refine h.transfer ([Ev.waitEnter (s.rs.queued.map Job.tid) (s.rs.running.map Job.tid)] ++
        ((finOf c s.rs.running).map (jobEvents p s.rs.ts)).flatten) (by simp) ?_
      (fun _ _ hd => Or.inl hd) h.qRdy (fun j hj => h.rRdy j ((stayOf_sublist c _).subset hj)) h.cRdy
    apply h.hist.append_of_mem
    intro e he pre' _
    simp only [List.mem_append, List.mem_singleton] at he
    rcases he with rfl | he
    · trivial
    · obtain ⟨es, hes, hmem⟩ := List.mem_flatten.mp he
      obtain ⟨j, hj, rfl⟩ := List.mem_map.mp hes
      exact DepOK_jobEvents _ _ j ((h.rRdy j ((finOf_sublist c _).subset hj)).mono pre') e hmem
  case popFuture t o =>
    simp only [stepPrim]
    split
    · cases o with
      | none => exact h.same rfl rfl (fun _ hj => hj) (fun _ hj => hj) rfl
      | some o =>
        exact h.transfer [Ev.yield t o] rfl (h.hist.snoc trivial) (fun _ _ hd => Or.inl hd)
          h.qRdy h.rRdy h.cRdy
    · exact h.same rfl rfl (fun _ hj => hj) (fun _ hj => hj) rfl
  case removeDone rem =>
    simp only [stepPrim]
    exact h.transfer [Ev.remove rem (s.rs.results.map (·.1))] rfl (h.hist.snoc trivial)
      (fun _ _ hd => Or.inl hd) h.qRdy h.rRdy h.cRdy
  case unblockOne t d =>
    simp only [stepPrim]
    cases hr : setRemove (s.rs.ts.pendDeps d) t with
    | none => exact h.same rfl rfl (fun _ hj => hj) (fun _ hj => hj) rfl
    | some l =>
      obtain ⟨_, hl⟩ := setRemove_some _ _ _ hr
      subst hl
      refine h.transfer [] (by simp) (by simpa using h.hist) ?_ h.qRdy h.rRdy h.cRdy
      intro x y hy
      rw [List.append_nil]
      exact if hyt : y = t then Or.inr (hyt ▸ hg) else Or.inl (mem_upd_remove.mpr ⟨hy, fun _ => hyt⟩)
  case popDeque =>
    simp only [stepPrim]
    cases hq : s.rs.queued with
    | nil =>
      exact h.transfer [Ev.waitEnter ([].map Job.tid) []] rfl (h.hist.snoc trivial)
        (fun _ _ hd => Or.inl hd) (fun j hj => by simp at hj) h.rRdy h.cRdy
    | cons j rest =>
      refine h.transfer [Ev.waitEnter ((j :: rest).map Job.tid) []] rfl (h.hist.snoc trivial)
        (fun _ _ hd => Or.inl hd) (fun j' hj' => h.qRdy j' (by rw [hq]; exact List.mem_cons_of_mem _ hj'))
        h.rRdy ?_
      intro j' hj'
      simp only [Option.some.injEq] at hj'
      subst hj'
      exact h.qRdy j (by rw [hq]; exact List.mem_cons_self)
  case serialRun =>
    simp only [stepPrim]
    cases hc : s.cur with
    | none => exact h
    | some j =>
      have hj := h.cRdy j hc
      refine h.transfer ([Ev.start j.tid] ++ runEvents p s.rs.ts j) (by simp) ?_
        (fun _ _ hd => Or.inl hd) h.qRdy h.rRdy (fun j' hj' => h.cRdy j' (by rw [hc]; exact hj'))
      apply h.hist.append_of_mem
      intro e he pre' _
      simp only [List.mem_append, List.mem_singleton] at he
      rcases he with rfl | he
      · exact hj.mono pre'
      · exact DepOK_runEvents _ _ j (hj.mono pre') e he

theorem Rdy.run {P : TS} {s : IS} {t : Tid} (h : Rdy P s.rs.trace t) (ps : List Prim) :
    Rdy P (runPrims cfg p ps s).rs.trace t := by
  obtain ⟨l, hl, _⟩ := trace_ext_list (cfg := cfg) (p := p) ps s
  rw [hl]; exact h.mono l

theorem DI_guarded {P : TS} : Guarded cfg p (Always cfg p (DI P)) (fun s q => DG P s.rs.trace q) :=
  .ofAlways DI_step

/-- side conditions checked at the head of a block: they speak of the trace, which only grows -/
theorem always_DI_guard {P : TS} (ps : List Prim) (s : IS) (h : DI P s) (hg : ∀ q ∈ ps, DG P s.rs.trace q) :
    Always cfg p (DI P) ps s :=
  DI_guarded.block (fun s => ∀ q ∈ ps, DG P s.rs.trace q) ps s h (fun _ => hg) (fun q hq s hS =>
    ⟨hS q hq, fun _ q' hq' => by
      obtain ⟨l, hl, _⟩ := trace_ext q s
      rw [hl]; exact (hS q' hq').mono l⟩)

theorem always_DI_free {P : TS} (ps : List Prim) (s : IS) (hf : ∀ q ∈ ps, q.dfree = true) (h : DI P s) :
    Always cfg p (DI P) ps s :=
  DI_guarded.free ps s (fun q hq _ => DG_of_free (hf q hq)) h

/-- after `future_to_task.pop(future)` of a future that carries an outcome, that outcome has been
    yielded (or a `KeyError` is propagating) -/
theorem popFuture_yielded (t : Tid) (o : Outcome) (s : IS) :
    (applyPrim cfg p (Prim.popFuture t (some o)) s).rs.status ≠ .running ∨
    t ∈ yieldedOf (applyPrim cfg p (Prim.popFuture t (some o)) s).rs.trace := by
  by_cases hrun : s.rs.status = .running
  · rw [applyPrim_running _ _ hrun]
    simp only [stepPrim]
    split
    · right
      exact (mem_yieldedOf _ _).mpr ⟨o, by simp⟩
    · left; simp [keyErr]
  · left; rw [applyPrim_stopped _ _ hrun]; exact hrun

theorem yield_DG {P : TS} {tr : List Ev} (req : List Tid) (ts : TS) (t : Tid) (o : Outcome)
    (h : t ∈ yieldedOf tr) : ∀ q ∈ yieldPrims cfg req ts t o, DG P tr q :=
  forall_mem_yieldPrims req ts t o (fun _ => trivial) (fun _ => trivial) trivial trivial (fun _ => h)
    (fun _ => trivial) (fun _ => trivial) (fun _ => trivial) (fun _ => trivial)

theorem always_DI_popYield {P : TS} (req : List Tid) (ts : TS) (t : Tid) (o : Outcome) (s : IS) (h : DI P s) :
    Always cfg p (DI P) (Prim.popFuture t (some o) :: yieldPrims cfg req ts t o) s := by
  refine ⟨h, ?_⟩
  have h1 : DI P (applyPrim cfg p (Prim.popFuture t (some o)) s) := DI_step _ s h (fun _ => trivial)
  rcases popFuture_yielded t o s with hs | hy
  · exact always_stopped _ _ hs h1
  · exact always_DI_guard _ _ h1 (yield_DG req ts t o hy)

theorem always_DI_startPrims {P : TS} (js : List Job) (s : IS) (h : DI P s)
    (hj : ∀ j ∈ js, Rdy P s.rs.trace j.tid) : Always cfg p (DI P) (startPrims js) s := by
  apply always_DI_guard _ _ h
  intro q hq
  obtain ⟨j, hjm, rfl | rfl | rfl⟩ := mem_startPrims hq
  · exact hj j hjm
  · trivial
  · trivial

/-- `_start_processes`: only submissions that are pending are started -/
theorem always_DI_startProcesses {P : TS} (s : IS) (h : DI P s) :
    Always cfg p (DI P) (startProcessesPrims cfg s) s :=
  always_DI_startPrims _ s h (fun j hj => h.qRdy j ((takeN_fst_sublist _ _).subset hj))

theorem always_DI_wait {P : TS} (req : List Tid) : ∀ (c : Choice) (s : IS), DI P s →
    Always cfg p (DI P) (waitPrims cfg p req c s) s :=
  have free : ∀ (ps : List Prim), (∀ q ∈ ps, q.dfree = true) → ∀ s, DI P s → Always cfg p (DI P) ps s :=
    fun ps hf s h => always_DI_free ps s hf h
  have popYield := fun t o (s : IS) => always_DI_popYield (P := P) req s.rs.ts t o s
  (Always.isSeq _).wait (fun _ => free _ (by simp [Prim.dfree])) (fun _ s _ _ _ => free _ (by simp [Prim.dfree]) s)
    (fun _ => popYield) (fun _ c s => free _ (forall_consume_dead rfl (fun _ => rfl)) s)
    (fun _ => always_DI_startProcesses)
    (fun _ => (Always.isSeq _).done (fun t => free _ (by simp [Prim.dfree])) popYield)

theorem always_DI_submitOne {P : TS} (s : IS) (t : Tid) (h : DI P s) (ht : Rdy P s.rs.trace t) :
    Always cfg p (DI P) (submitOnePrims cfg p s t) s := by
  have a : ∀ q, DG P s.rs.trace q → Always cfg p (DI P) [Prim.startTask t, q] s := fun q hq =>
    always_DI_guard _ s h (fun q' hq' => by
      simp only [List.mem_cons, List.not_mem_nil, or_false] at hq'
      rcases hq' with rfl | rfl
      · trivial
      · exact hq)
  simp only [submitOnePrims]
  split
  · exact a _ ht
  · exact DI_guarded.seq (DI_guarded.seq (a _ ht) (always_DI_startProcesses _))
      (always_DI_free _ _ (fun q hq => by rw [List.mem_singleton.mp hq]; rfl))

/-- `get_ready_tasks` lists only tasks whose recorded dependencies have all been yielded -/
theorem ready_Rdy {P : TS} (s : IS) (h : DI P s) : ∀ t ∈ readyTasks p s.rs.ts, Rdy P s.rs.trace t := by
  intro t ht d hd
  have h0 := (readyTasks_no_pending_deps p s.rs.ts t ht).1
  rcases h.pdY t d hd with h1 | h1
  · rw [h0] at h1; simp at h1
  · exact h1

theorem DI_walk {P : TS} (req : List Tid) : Walk cfg p req (Always cfg p (DI P)) :=
  Walk.ofAlways (fun s h _ => (Always.isSeq _).submitH (fun t s => Rdy P s.rs.trace t) always_DI_submitOne
      (fun _ _ _ h => h.run _) _ s h (ready_Rdy s h)) (always_DI_wait req)
    (fun s h => always_DI_free _ s (fun q hq => by rcases mem_cancelPrims hq with rfl | ⟨t, rfl⟩ <;> rfl) h)
    (fun s h => always_DI_free _ s (fun q hq => by obtain ⟨t, rfl⟩ := mem_stopPrims hq; rfl) h)

theorem DI_init (store : Store) (fuel : Nat) : DI (plan cfg p store fuel) (initIS cfg p store fuel) where
  hist := Hist_nil _
  pdY := fun x d hd => Or.inl (by
    show d ∈ (plan cfg p store fuel).pendDeps x
    rw [(plan_PI cfg p store fuel).pdEq]; exact hd)
  qRdy := fun _ hj => nomatch hj
  rRdy := fun _ hj => nomatch hj
  cRdy := fun _ hj => nomatch hj

/-- `DI` at every instant of every interrupted run -/
theorem instant_DI {store : Store} {fuel : Nat} {s : IS} (hs : Instant cfg p store fuel s) :
    DI (plan cfg p store fuel) s :=
  (DI_walk _).instant (DI_init store fuel) hs

theorem stateAt_DI (store : Store) (fuel : Nat) (sched : List Choice) (k : Nat) :
    DI (plan cfg p store fuel) (stateAt cfg p store fuel sched k) :=
  (DI_walk _).stateAt (DI_init store fuel) sched k

theorem handlerStateAt_DI (store : Store) (fuel : Nat) (sched : List Choice) (k : Nat) (ds : List Choice) (m : Nat) :
    DI (plan cfg p store fuel) (handlerStateAt cfg p store fuel sched k ds m) :=
  (DI_walk _).handlerStateAt (DI_init store fuel) sched k ds m

theorem secondStateAt_DI (store : Store) (fuel : Nat) (sched : List Choice) (k : Nat) (ds : List Choice)
    (m m2 : Nat) : DI (plan cfg p store fuel) (secondStateAt cfg p store fuel sched k ds m m2) :=
  (DI_walk _).secondStateAt (DI_init store fuel) sched k ds m m2

end Lt
