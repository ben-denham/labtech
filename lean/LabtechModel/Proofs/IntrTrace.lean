import LabtechModel.Proofs.IntrStream
/-!
# M10: what the handlers' streams contain; nothing is launched after the interrupt (so an invariant that
every non-launching primitive keeps holds along both handlers); `LabError` only without `continue_on_failure`
-/
namespace Lt

variable {cfg : Config} {p : Problem}

/-- primitives of the submit path / of `_start_processes` / the serial `run()` -/
def Prim.launches : Prim → Bool
  | .startTask _ | .enqueue _ | .procStart _ | .regRunning _ | .unregPending _ | .regFuture _
  | .serialAppend _ | .serialRun | .serialSaveBegin | .serialSaveEnd => true
  | _ => false

def Prim.isRaise : Prim → Bool
  | .raiseLabError _ => true
  | _ => false

/-- a property of primitives that holds for everything that is neither a launch nor the raise,
    and for the raise when failures are not continued over -/
structure GenOK (cfg : Config) (P : Prim → Prop) : Prop where
  basic : ∀ q, q.launches = false → q.isRaise = false → P q
  raise : cfg.contOnFail = false → ∀ t, P (.raiseLabError t)

theorem members_yield {P : Prim → Prop} (hP : GenOK cfg P) (req : List Tid) (ts : TS) (t : Tid) (o : Outcome) :
    ∀ q ∈ yieldPrims cfg req ts t o, P q :=
  forall_mem_yieldPrims req ts t o (fun _ => hP.basic _ rfl rfl) (fun _ => hP.basic _ rfl rfl)
    (hP.basic _ rfl rfl) (hP.basic _ rfl rfl) (fun _ => hP.basic _ rfl rfl) (fun _ => hP.basic _ rfl rfl)
    (fun _ => hP.basic _ rfl rfl) (fun _ => hP.basic _ rfl rfl) (fun h => hP.raise h t)

theorem members_done {P : Prim → Prop} (hP : GenOK cfg P) (req : List Tid) :
    ∀ (cands : List Tid) (s : IS), ∀ q ∈ donePrims cfg p req cands s, P q :=
  fun cands s => (BlockSeq.ofAppend (A := fun ps _ => ∀ q ∈ ps, P q) (fun _ _ _ => List.forall_mem_append)).done
    (fun t _ _ q hq => by rw [List.mem_singleton.mp hq]; exact hP.basic _ rfl rfl)
    (fun t o s _ q hq => by
      rcases List.mem_cons.mp hq with rfl | hq
      · exact hP.basic _ rfl rfl
      · exact members_yield hP req s.rs.ts t o q hq)
    cands s (fun _ h => nomatch h)

theorem startPrims_nil_of (n : Nat) : startPrims (takeN n ([] : List Job)).1 = [] := by
  cases n <;> rfl

/-- one `process_completed_tasks()` call: launches (the serial `run()`, `_start_processes`) only when
    something is queued -/
theorem members_wait {P : Prim → Prop} (hP : GenOK cfg P) (req : List Tid) (c : Choice) (s : IS)
    (hl : s.rs.queued ≠ [] → ∀ q, q.launches = true → P q) :
    ∀ q ∈ waitPrims cfg p req c s, P q := by
  refine waitPrims_cases (motive := fun ps => ∀ q ∈ ps, P q) req c s ?_ ?_ ?_
  · intro _ _ q hq
    rw [List.mem_singleton.mp hq]; exact hP.basic _ rfl rfl
  · intro _ j rest o hqe _ q hq
    have hne : s.rs.queued ≠ [] := by rw [hqe]; exact List.cons_ne_nil _ _
    simp only [List.mem_append, List.mem_cons, List.not_mem_nil, or_false] at hq
    rcases hq with (rfl | rfl | rfl | rfl) | rfl | hq
    · exact hP.basic _ rfl rfl
    · exact hl hne _ rfl
    · exact hl hne _ rfl
    · exact hl hne _ rfl
    · exact hP.basic _ rfl rfl
    · exact members_yield hP req _ _ _ q hq
  · intro _ s0 s1 s2 h0 h1 _ q hq
    simp only [List.mem_append, List.mem_cons, deadPrims, List.mem_map] at hq
    rcases hq with ((rfl | ⟨t, _, rfl⟩) | hq) | hq
    · exact hP.basic _ rfl rfl
    · exact hP.basic _ rfl rfl
    · -- `_start_processes`: the queue is still the one of `s`
      have hqe : s1.rs.queued = s.rs.queued := by
        rw [h1, deadPrims, runPrims_keep (fun s => s.rs.queued) _ s0 (fun q hq s => by
          obtain ⟨t, _, rfl⟩ := List.mem_map.mp hq; exact applyPrim_queued _ s rfl), h0]
        exact applyPrim_queued _ s rfl
      by_cases hne : s.rs.queued = []
      · rw [startProcessesPrims, hqe, hne, startPrims_nil_of] at hq; cases hq
      · exact forall_mem_startPrims (fun _ => ⟨hl hne _ rfl, hl hne _ rfl, hl hne _ rfl⟩) _ q hq
    · exact members_done hP req _ _ q hq

theorem applyPrim_queued_nil (q : Prim) (s : IS) (hq : q.launches = false) (h : s.rs.queued = []) :
    (applyPrim cfg p q s).rs.queued = [] := by
  by_cases ht : q.touchesQueued = false
  · rw [applyPrim_queued q s ht]; exact h
  · refine applyPrim_of_step (R := fun _ s' => s'.rs.queued = []) q s h ?_
    cases q
    case enqueue | unregPending | serialAppend => exact Bool.noConfusion hq
    case popDeque | cancelOne | clearDeque => simp [stepPrim, h]
    all_goals exact absurd rfl ht

theorem runPrims_queued_nil (ps : List Prim) (s : IS) (hq : ∀ q ∈ ps, q.launches = false)
    (h : s.rs.queued = []) : (runPrims cfg p ps s).rs.queued = [] :=
  (always_of_step ps s (fun q hq' s => applyPrim_queued_nil q s (hq q hq')) h).last

theorem cancel_empties : ∀ (l : List Job) (s : IS), s.rs.status = .running → s.rs.queued = l →
    (runPrims cfg p (l.map (fun j => Prim.cancelOne j.tid)) s).rs.queued = [] := by
  intro l
  induction l with
  | nil => intro s _ h; exact h
  | cons j l ih =>
    intro s hrun h
    rw [List.map_cons, runPrims_cons]
    apply ih
    · rw [applyPrim_status _ _ rfl]; exact hrun
    · simp [applyPrim_running _ _ hrun, stepPrim, h, hasTid]

theorem cancelPrims_empties (s : IS) (hrun : s.rs.status = .running) :
    (runPrims cfg p (cancelPrims cfg s) s).rs.queued = [] := by
  simp only [cancelPrims]
  split
  · simp [applyPrim_running _ _ hrun, stepPrim]
  · exact cancel_empties _ s hrun rfl

theorem cancelPrims_nolaunch (s : IS) : ∀ q ∈ cancelPrims cfg s, q.launches = false ∧ q.isRaise = false := by
  intro q hq
  rcases mem_cancelPrims hq with rfl | ⟨t, rfl⟩ <;> exact ⟨rfl, rfl⟩

theorem stopPrims_nolaunch (s : IS) : ∀ q ∈ stopPrims cfg s, q.launches = false ∧ q.isRaise = false := by
  intro q hq
  obtain ⟨t, rfl⟩ := mem_stopPrims hq
  exact ⟨rfl, rfl⟩

/-- what holds of every primitive of the handlers -/
def HOK (cfg : Config) (q : Prim) : Prop :=
  q.launches = false ∧ (q.isRaise = true → cfg.contOnFail = false)

theorem HOK_gen : GenOK cfg (HOK cfg) where
  basic := fun q h1 h2 => ⟨h1, fun h => by rw [h2] at h; exact absurd h (by simp)⟩
  raise := fun h t => ⟨rfl, fun _ => h⟩

theorem members_drain (req : List Tid) : ∀ (ds : List Choice) (s : IS), s.rs.queued = [] →
    ∀ q ∈ drainPrims cfg p req ds s, HOK cfg q := by
  intro ds
  induction ds with
  | nil => intro s _ q hq; simp [drainPrims] at hq
  | cons c cs ih =>
    intro s hqe q hq
    unfold drainPrims at hq
    split at hq
    · split at hq
      · simp at hq
      · have hw := members_wait (p := p) (HOK_gen (cfg := cfg)) req c s (fun hne => absurd hqe hne)
        simp only [List.mem_append] at hq
        rcases hq with hq | hq
        · exact hw q hq
        · exact ih _ (runPrims_queued_nil _ s (fun q' hq' => (hw q' hq').1) hqe) q hq
    · simp at hq

theorem members_handler (req : List Tid) (ds : List Choice) (s : IS) :
    ∀ q ∈ handlerPrims cfg p req ds s, HOK cfg q := by
  intro q hq
  simp only [handlerPrims, List.mem_append] at hq
  rcases hq with hq | hq
  · obtain ⟨h1, h2⟩ := cancelPrims_nolaunch s q hq
    exact HOK_gen.basic q h1 h2
  · by_cases hrun : s.rs.status = .running
    · exact members_drain req ds _ (cancelPrims_empties s hrun) q hq
    · rw [runPrims_stopped _ _ hrun, drainPrims_stopped req ds s hrun] at hq; cases hq

theorem members_second (req : List Tid) (s : IS) (hrun : s.rs.status = .running) :
    ∀ q ∈ secondPrims cfg p req s, HOK cfg q := by
  intro q hq
  simp only [secondPrims, List.mem_append] at hq
  have hn : ∀ q, q.launches = false ∧ q.isRaise = false → HOK cfg q := fun q h => HOK_gen.basic q h.1 h.2
  rcases hq with (hq | hq) | hq
  · exact hn q (cancelPrims_nolaunch s q hq)
  · exact hn q (stopPrims_nolaunch _ q hq)
  · have h1 := cancelPrims_empties (cfg := cfg) (p := p) s hrun
    have h2 := runPrims_queued_nil (cfg := cfg) (p := p) (stopPrims cfg (runPrims cfg p (cancelPrims cfg s) s)) _
      (fun q' hq' => (stopPrims_nolaunch _ q' hq').1) h1
    exact members_wait HOK_gen req noWait _ (fun hne => absurd h2 hne) q hq

theorem always_handler_nolaunch {I : IS → Prop}
    (step : ∀ q, q.launches = false → ∀ s, I s → I (applyPrim cfg p q s)) (req : List Tid) (ds : List Choice)
    (s : IS) (h : I s) : Always cfg p I (handlerPrims cfg p req ds s) s :=
  always_of_step _ s (fun q hq => step q (members_handler req ds s q hq).1) h

theorem always_second_nolaunch {I : IS → Prop}
    (step : ∀ q, q.launches = false → ∀ s, I s → I (applyPrim cfg p q s)) (req : List Tid) (s : IS) (h : I s) :
    Always cfg p I (secondPrims cfg p req s) s := by
  by_cases hrun : s.rs.status = .running
  · exact always_of_step _ s (fun q hq => step q (members_second req s hrun q hq).1) h
  · exact always_stopped _ s hrun h

/-- `LabError` is raised only without `continue_on_failure` -/
def ROK (cfg : Config) (q : Prim) : Prop := q.isRaise = true → cfg.contOnFail = false

theorem ROK_gen : GenOK cfg (ROK cfg) where
  basic := fun q _ h2 h => by rw [h2] at h; exact absurd h (by simp)
  raise := fun h _ _ => h

theorem ROK_of_launch (q : Prim) (h : q.launches = true) : ROK cfg q := by
  intro hr
  cases q <;> simp [Prim.launches, Prim.isRaise] at h hr

theorem members_submit (l : List Tid) (s : IS) : ∀ q ∈ submitPrims cfg p l s, q.launches = true :=
  (BlockSeq.ofAppend (A := fun ps _ => ∀ q ∈ ps, q.launches = true) (fun _ _ _ => List.forall_mem_append)).submit
    (fun s t _ => by
      rw [submitOnePrims]
      split
      · simp [Prim.launches]
      · simp only [List.forall_mem_append, List.mem_cons, List.not_mem_nil, or_false, forall_eq_or_imp, forall_eq]
        exact ⟨⟨⟨rfl, rfl⟩, forall_mem_startPrims (fun _ => ⟨rfl, rfl, rfl⟩) _⟩, rfl⟩)
    l s (fun _ h => nomatch h)

/-- no stream raises `LabError` under `continue_on_failure` -/
theorem ROK_walk (req : List Tid) : Walk cfg p req (fun ps _ => ∀ q ∈ ps, ROK cfg q) where
  append := fun _ _ _ => List.forall_mem_append
  submit := fun s _ _ q hq => ROK_of_launch q (members_submit _ _ q hq)
  wait := fun c s _ => members_wait ROK_gen req c s (fun _ q' h' => ROK_of_launch q' h')
  cancel := fun s _ q hq => by rcases mem_cancelPrims hq with rfl | ⟨t, rfl⟩ <;> exact ROK_gen.basic _ rfl rfl
  stop := fun s _ q hq => by obtain ⟨t, rfl⟩ := mem_stopPrims hq; exact ROK_gen.basic _ rfl rfl

def LabOK (cfg : Config) (s : IS) : Prop :=
  ∀ t, s.rs.status = .raised (.labError t) → cfg.contOnFail = false

theorem applyPrim_LabOK (q : Prim) (s : IS) (hq : ROK cfg q) (h : LabOK cfg s) :
    LabOK cfg (applyPrim cfg p q s) := by
  refine applyPrim_of_step (R := fun _ s' => LabOK cfg s') q s h (fun t ht => ?_)
  rcases stepPrim_status q s with h1 | h1 | ⟨t', rfl⟩
  · exact h t (h1 ▸ ht)
  · rw [h1] at ht; cases ht
  · exact hq rfl

/-- a failure is re-raised as `LabError` only without `continue_on_failure`, along every stream -/
theorem LabOK_walk (req : List Tid) : Walk cfg p req (Always cfg p (LabOK cfg)) :=
  have along : ∀ ps, (∀ q ∈ ps, ROK cfg q) → ∀ s, LabOK cfg s → Always cfg p (LabOK cfg) ps s :=
    fun ps hq s h => always_of_step ps s (fun q hq' s => applyPrim_LabOK q s (hq q hq')) h
  have triv : ∀ s : IS, ∀ q ∈ ([] : List Prim), ROK cfg q := fun _ _ h => nomatch h
  have r := ROK_walk req
  Walk.ofAlways (fun s h hr => along _ (r.submit s (triv s) hr) s h) (fun c s => along _ (r.wait c s (triv s)) s)
    (fun s => along _ (r.cancel s (triv s)) s) (fun s => along _ (r.stop s (triv s)) s)

def evLaunch : Ev → Bool
  | .start _ | .submit _ _ => true
  | _ => false

theorem jobEvents_nolaunch (ts : TS) (js : List Job) :
    ∀ e ∈ (js.map (jobEvents p ts)).flatten, evLaunch e = false := by
  intro e he
  simp only [List.mem_flatten, List.mem_map] at he
  obtain ⟨l, ⟨j, _, rfl⟩, hel⟩ := he
  rcases jobEvents_cases p ts j e hel with rfl | rfl <;> rfl

/-- the trace only grows, and without a launch it gets no `start` / `submit` record -/
theorem trace_ext (q : Prim) (s : IS) :
    ∃ l, (applyPrim cfg p q s).rs.trace = s.rs.trace ++ l ∧
      (q.launches = false → ∀ e ∈ l, evLaunch e = false) := by
  by_cases hrun : ¬ s.rs.status = .running
  · rw [applyPrim_stopped q s hrun]
    exact ⟨[], by simp, fun _ e he => by simp at he⟩
  rw [applyPrim_running q s (Decidable.not_not.mp hrun)]
  by_cases ht : q.touchesTrace = false
  · exact ⟨[], by rw [stepPrim_trace q s ht, List.append_nil], fun _ e he => nomatch he⟩
  cases q
  case consumeResults c =>
    refine ⟨[Ev.waitEnter (s.rs.queued.map Job.tid) (s.rs.running.map Job.tid)] ++
      ((finOf c s.rs.running).map (jobEvents p s.rs.ts)).flatten, by simp [stepPrim], fun _ e he => ?_⟩
    simp only [List.mem_append, List.mem_singleton] at he
    rcases he with rfl | he
    · rfl
    · exact jobEvents_nolaunch _ _ e he
  case popFuture t o =>
    cases o with
    | none =>
      refine ⟨[], ?_, fun _ e he => by simp at he⟩
      simp only [stepPrim]; split <;> simp [keyErr]
    | some o =>
      by_cases ht : t ∈ s.rs.futs
      · exact ⟨[Ev.yield t o], by simp [stepPrim, ht], fun _ e he => by
          simp only [List.mem_singleton] at he; subst he; rfl⟩
      · exact ⟨[], by simp [stepPrim, ht, keyErr], fun _ e he => by simp at he⟩
  case removeDone rem =>
    exact ⟨[Ev.remove rem (s.rs.results.map (·.1))], by simp [stepPrim], fun _ e he => by
      simp only [List.mem_singleton] at he; subst he; rfl⟩
  case popDeque =>
    refine ⟨[Ev.waitEnter (s.rs.queued.map Job.tid) []], ?_, fun _ e he => by
      simp only [List.mem_singleton] at he; subst he; rfl⟩
    simp only [stepPrim]; split <;> rfl
  case enqueue t => exact ⟨_, by simp only [stepPrim]; rfl, fun h => by simp [Prim.launches] at h⟩
  case procStart t => exact ⟨_, by simp only [stepPrim]; rfl, fun h => by simp [Prim.launches] at h⟩
  case serialAppend t => exact ⟨_, by simp only [stepPrim]; rfl, fun h => by simp [Prim.launches] at h⟩
  case serialRun =>
    cases hc : s.cur with
    | none => exact ⟨[], by simp [stepPrim, hc], fun h => by simp [Prim.launches] at h⟩
    | some j =>
      exact ⟨[Ev.start j.tid] ++ runEvents p s.rs.ts j, by simp [stepPrim, hc],
        fun h => by simp [Prim.launches] at h⟩
  all_goals exact absurd rfl ht

/-- a stream only appends to the trace, and launches nothing if none of its primitives does -/
theorem trace_ext_list : ∀ (ps : List Prim) (s : IS),
    ∃ l, (runPrims cfg p ps s).rs.trace = s.rs.trace ++ l ∧
      ((∀ q ∈ ps, q.launches = false) → ∀ e ∈ l, evLaunch e = false) := by
  intro ps
  induction ps with
  | nil => intro s; exact ⟨[], by simp, fun _ e he => nomatch he⟩
  | cons q ps ih =>
    intro s
    obtain ⟨l1, h1, h1'⟩ := trace_ext q s
    obtain ⟨l2, h2, h2'⟩ := ih (applyPrim cfg p q s)
    refine ⟨l1 ++ l2, by rw [runPrims_cons, h2, h1, List.append_assoc], fun hq e he => ?_⟩
    rcases List.mem_append.mp he with he | he
    · exact h1' (hq q List.mem_cons_self) e he
    · exact h2' (fun q' hq' => hq q' (List.mem_cons_of_mem _ hq')) e he

end Lt
