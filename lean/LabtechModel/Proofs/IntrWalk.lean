import LabtechModel.Proofs.IntrSafe
/-!
# M10: the streams block by block

Every stream of `Model/Intr.lean` is built from four blocks: the submit phase of an iteration, one
`process_completed_tasks()` call, `runner.cancel()` and `runner.stop()`. An invariant is carried through
the streams by giving its block lemmas, nothing else.

`BlockSeq E B`: `B ps s` ("along `ps` from `s`") is a predicate of blocks that begin and end in a state
with `E`, and blocks compose (`nil`, `seq`, `last`). There are three sources of one:
* `Always.isSeq I`: `B = Always I` (`IntrSafe`: `I` in `s` and after every prefix of `ps`), `E = I`;
* `BlockSeq.ofAppend`: any `A` that splits over `++`, with `E = A []` (`Always2` of `IntrResults`, which adds
  a fact about every single step; "every member of `ps` satisfies `P`" in `IntrTrace`);
* `AlwaysTo.isSeq`: `B = AlwaysTo I E` for an invariant `E` that holds where a block begins and ends and
  only in a weaker form `I` inside it (`_start_processes` computes how many processes it may start before
  it starts any: inside its loop body the counts are off by one). `Blk` (`IntrOnce`), `WBlock`, `JBlock`
  (`IntrLimitW`, `IntrLimitS`) are of this kind; `WinBlock` (`IntrWindow`) is one made by hand, over
  `AlwaysW`, whose predicate also reads the window state that follows the executed primitives.
For a `BlockSeq`, one `process_completed_tasks()` call comes from its phases (`BlockSeq.wait`,
`BlockSeq.done`; the runner is known in each phase, the loop body is asked for only with the scheduler
state it is generated from), the submit phase from one submission (`BlockSeq.submit`), an iteration from
the two (`BlockSeq.iteration`), the main stream from its iterations (`BlockSeq.main`).

`Walk req A`: `A` splits over `++` and holds along each of the four blocks from ANY state in which it
holds along `[]`. An interrupt falls between any two primitives, so the handlers are entered in the middle
of a block: only such an `A` goes through them by its block lemmas. It holds along the main stream and
both handlers' streams from any such state (`Walk.main`, `Walk.handler`, `Walk.second`), hence in every
state of every interrupted run (`stateAt`, `handlerStateAt`, `secondStateAt`). `Walk.ofAlways` is the case
`A = Always I`; `Guarded` (`IntrGuard`) makes the block lemmas when single primitives need side conditions.
An invariant that has a `BlockSeq` with `E` stronger than `I` only gets through the main stream
(`BlockSeq.main`) and has `I` after every prefix of it; in the handlers `I` is then kept because they
launch nothing (`always_handler_nolaunch`, `always_second_nolaunch` in `IntrTrace`; for `Tr`,
`always_Tr_handler` in `IntrDrain`).
-/
namespace Lt

variable {cfg : Config} {p : Problem}

theorem mem_cancelPrims {s : IS} {q : Prim} (h : q ∈ cancelPrims cfg s) :
    q = .clearDeque ∨ ∃ t, q = .cancelOne t := by
  simp only [cancelPrims] at h
  split at h
  · exact Or.inl (List.mem_singleton.mp h)
  · obtain ⟨j, _, rfl⟩ := List.mem_map.mp h; exact Or.inr ⟨_, rfl⟩

theorem mem_stopPrims {s : IS} {q : Prim} (h : q ∈ stopPrims cfg s) : ∃ t, q = .stopOne t := by
  simp only [stopPrims] at h
  split at h
  · simp at h
  · simp only [List.mem_append, List.mem_map] at h
    rcases h with ⟨j, _, rfl⟩ | ⟨t, _, rfl⟩ <;> exact ⟨_, rfl⟩

structure BlockSeq (cfg : Config) (p : Problem) (E : IS → Prop) (B : List Prim → IS → Prop) : Prop where
  nil : ∀ s, E s → B [] s
  seq : ∀ {a b s}, B a s → B b (runPrims cfg p a s) → B (a ++ b) s
  last : ∀ {ps s}, B ps s → E (runPrims cfg p ps s)

theorem BlockSeq.ofAppend {A : List Prim → IS → Prop}
    (append : ∀ a b s, A (a ++ b) s ↔ A a s ∧ A b (runPrims cfg p a s)) :
    BlockSeq cfg p (fun s => A [] s) A where
  nil := fun _ h => h
  seq := fun ha hb => (append _ _ _).mpr ⟨ha, hb⟩
  last := fun {ps s} h => ((append ps [] s).mp (by rwa [List.append_nil])).2

theorem Always.andThen {Q : IS → Prop} {a b : List Prim} {s : IS} (ha : Always cfg p Q a s)
    (hb : Always cfg p Q b (runPrims cfg p a s)) : Always cfg p Q (a ++ b) s :=
  (always_append a b s).mpr ⟨ha, hb⟩

theorem Always.isSeq (I : IS → Prop) : BlockSeq cfg p I (Always cfg p I) :=
  ⟨fun _ h => h, Always.andThen, Always.last⟩

/-- `I` after every primitive of `ps` from `s`, `E` at the end -/
def AlwaysTo (cfg : Config) (p : Problem) (I E : IS → Prop) (ps : List Prim) (s : IS) : Prop :=
  Always cfg p I ps s ∧ E (runPrims cfg p ps s)

theorem AlwaysTo.isSeq {I E : IS → Prop} (hEI : ∀ s, E s → I s) : BlockSeq cfg p E (AlwaysTo cfg p I E) where
  nil := fun s h => ⟨hEI s h, h⟩
  seq := fun ha hb => ⟨ha.1.andThen hb.1, by rw [runPrims_append]; exact hb.2⟩
  last := fun h => h.2

theorem AlwaysTo.of_always {I E : IS → Prop} (hEI : ∀ s, E s → I s) {ps : List Prim} {s : IS}
    (a : Always cfg p E ps s) : AlwaysTo cfg p I E ps s :=
  ⟨a.mono hEI, a.last⟩

theorem AlwaysTo.stopped {I E : IS → Prop} (hEI : ∀ s, E s → I s) (ps : List Prim) {s : IS}
    (hs : s.rs.status ≠ .running) (h : E s) : AlwaysTo cfg p I E ps s :=
  ⟨always_stopped ps s hs (hEI s h), by rw [runPrims_stopped ps s hs]; exact h⟩

namespace BlockSeq

variable {req : List Tid} {E : IS → Prop} {B : List Prim → IS → Prop} (w : BlockSeq cfg p E B)
include w

/-- the submit phase from one submission. `H t s`: what is known at the head of the phase of a task `t`
    that is going to be submitted, and that the submission of another task leaves alone -/
theorem submitH (H : Tid → IS → Prop) (one : ∀ s t, E s → H t s → B (submitOnePrims cfg p s t) s)
    (keep : ∀ s t t', H t' s → H t' (runPrims cfg p (submitOnePrims cfg p s t) s)) :
    ∀ (l : List Tid) (s : IS), E s → (∀ t ∈ l, H t s) → B (submitPrims cfg p l s) s := by
  intro l
  induction l with
  | nil => intro s h _; exact w.nil s h
  | cons t ts ih =>
    intro s h hl
    have a := one s t h (hl t List.mem_cons_self)
    exact w.seq a (ih _ (w.last a) (fun t' ht' => keep s t t' (hl t' (List.mem_cons_of_mem _ ht'))))

theorem submit (one : ∀ s t, E s → B (submitOnePrims cfg p s t) s) (l : List Tid) (s : IS) (h : E s) :
    B (submitPrims cfg p l s) s :=
  w.submitH (fun _ _ => True) (fun s t h _ => one s t h) (fun _ _ _ _ => trivial) l s h (fun _ _ => trivial)

/-- `for future in done:` from its two loop bodies: a cancelled future is only popped, a future with an
    outcome is popped and its outcome processed with the scheduler state at the pop -/
theorem doneOf (popNone : ∀ t s, E s → t ∈ s.cancelled → B [Prim.popFuture t none] s)
    (popYield : ∀ t o s, E s → (t, o) ∈ s.done →
      B (Prim.popFuture t (some o) :: yieldPrims cfg req s.rs.ts t o) s) :
    ∀ (cands : List Tid) (s : IS), E s → B (donePrims cfg p req cands s) s := by
  intro cands
  induction cands with
  | nil => intro s h; exact w.nil s h
  | cons t rest ih =>
    intro s h
    unfold donePrims
    split
    · have a : B (doneOnePrims cfg req s t) s := by
        simp only [doneOnePrims]
        split
        · next hc => exact popNone t s h hc
        · split
          · next t' o hf =>
            obtain rfl : t' = t := by simpa using List.find?_some hf
            exact popYield _ o s h (List.mem_of_find?_eq_some hf)
          · exact w.nil s h
      exact w.seq a (ih _ (w.last a))
    · exact w.nil s h

/-- the same when the loop bodies are kept from any state -/
theorem done (popNone : ∀ t s, E s → B [Prim.popFuture t none] s)
    (popYield : ∀ t o s, E s → B (Prim.popFuture t (some o) :: yieldPrims cfg req s.rs.ts t o) s) :
    ∀ (cands : List Tid) (s : IS), E s → B (donePrims cfg p req cands s) s :=
  w.doneOf (fun t s h _ => popNone t s h) (fun t o s h _ => popYield t o s h)

/-- one `process_completed_tasks()` call from its phases: the serial runner's `popleft` .. `save` on a
    non-empty deque, then pop + loop body; the process runner's result and dead-process drains,
    `_start_processes`, the done loop -/
theorem wait
    (idle : cfg.backend = .serial → ∀ s, E s → B [Prim.popDeque] s)
    (head : cfg.backend = .serial → ∀ s j rest, s.rs.queued = j :: rest → E s →
      B [Prim.popDeque, Prim.serialRun, Prim.serialSaveBegin, Prim.serialSaveEnd] s)
    (popYield : cfg.backend = .serial → ∀ t o s, E s →
      B (Prim.popFuture t (some o) :: yieldPrims cfg req s.rs.ts t o) s)
    (consume : cfg.backend ≠ .serial → ∀ c s, E s →
      B (Prim.consumeResults c :: deadPrims (runPrims cfg p [Prim.consumeResults c] s)) s)
    (start : cfg.backend ≠ .serial → ∀ s, E s → B (startProcessesPrims cfg s) s)
    (done : cfg.backend ≠ .serial → ∀ cands s, E s → B (donePrims cfg p req cands s) s) :
    ∀ (c : Choice) (s : IS), E s → B (waitPrims cfg p req c s) s := by
  intro c s h
  refine waitPrims_cases (motive := fun ps => B ps s) req c s (fun hb _ => idle hb s h) ?_ ?_
  · intro hb j rest o hq _
    have a := head hb s j rest hq h
    -- `popleft` .. `save` leave the scheduler state alone
    have hts := (quiet_run (cfg := cfg) (p := p)
      [Prim.popDeque, Prim.serialRun, Prim.serialSaveBegin, Prim.serialSaveEnd] s (by decide)).1
    rw [← hts]
    exact w.seq a (popYield hb _ _ _ (w.last a))
  · intro hb s0 s1 s2 e0 e1 e2
    subst e0 e1 e2
    have a := consume hb c s h
    have b := start hb _ (w.last a)
    refine w.seq (w.seq a b) ?_
    rw [runPrims_append]
    exact done hb _ _ (w.last b)

theorem iteration (submit : ∀ s, E s → s.rs.status = .running → B (submitPrims cfg p (readyTasks p s.rs.ts) s) s)
    (wait : ∀ c s, E s → s.rs.status = .running → B (waitPrims cfg p req c s) s) (c : Choice) (s : IS) (h : E s)
    (hrun : s.rs.status = .running) : B (iterationPrims cfg p req c s) s := by
  have a := submit s h hrun
  simp only [iterationPrims]
  split
  · next hr1 => exact w.seq a (wait c _ (w.last a) hr1)
  · exact a

theorem main (iteration : ∀ c s, E s → s.rs.status = .running → B (iterationPrims cfg p req c s) s) :
    ∀ (sched : List Choice) (s : IS), E s → B (mainStream cfg p req sched s) s := by
  intro sched
  induction sched with
  | nil => intro s h; exact w.nil s h
  | cons c cs ih =>
    intro s h
    unfold mainStream
    split
    · next hrun =>
      split
      · have a := iteration c s h hrun
        exact w.seq a (ih _ (w.last a))
      · exact w.nil s h
    · exact w.nil s h

end BlockSeq

/-- `A` splits over `++` -/
structure Splits (cfg : Config) (p : Problem) (A : List Prim → IS → Prop) : Prop where
  append : ∀ a b s, A (a ++ b) s ↔ A a s ∧ A b (runPrims cfg p a s)

namespace Splits

variable {A : List Prim → IS → Prop} (w : Splits cfg p A)
include w

theorem isSeq : BlockSeq cfg p (fun s => A [] s) A := BlockSeq.ofAppend w.append

theorem last {ps : List Prim} {s : IS} (h : A ps s) : A [] (runPrims cfg p ps s) := w.isSeq.last h

theorem seq {a b : List Prim} {s : IS} (ha : A a s) (hb : A [] (runPrims cfg p a s) → A b (runPrims cfg p a s)) :
    A (a ++ b) s :=
  w.isSeq.seq ha (hb (w.last ha))

end Splits

structure Walk (cfg : Config) (p : Problem) (req : List Tid) (A : List Prim → IS → Prop) : Prop
    extends Splits cfg p A where
  submit : ∀ s, A [] s → s.rs.status = .running → A (submitPrims cfg p (readyTasks p s.rs.ts) s) s
  wait : ∀ c s, A [] s → A (waitPrims cfg p req c s) s
  cancel : ∀ s, A [] s → A (cancelPrims cfg s) s
  stop : ∀ s, A [] s → A (stopPrims cfg s) s

namespace Walk

variable {req : List Tid} {A : List Prim → IS → Prop} (w : Walk cfg p req A)
include w

theorem iteration (c : Choice) (s : IS) (h : A [] s) (hrun : s.rs.status = .running) :
    A (iterationPrims cfg p req c s) s :=
  w.isSeq.iteration w.submit (fun c s h _ => w.wait c s h) c s h hrun

theorem main (sched : List Choice) (s : IS) (h : A [] s) : A (mainStream cfg p req sched s) s :=
  w.isSeq.main w.iteration sched s h

theorem drain : ∀ (ds : List Choice) (s : IS), A [] s → A (drainPrims cfg p req ds s) s := by
  intro ds
  induction ds with
  | nil => intro s h; exact h
  | cons c cs ih =>
    intro s h
    unfold drainPrims
    split
    · split
      · exact h
      · exact w.seq (w.wait c s h) (ih _)
    · exact h

/-- the first `KeyboardInterrupt` handler, entered in any state -/
theorem handler (ds : List Choice) (s : IS) (h : A [] s) : A (handlerPrims cfg p req ds s) s :=
  w.seq (w.cancel s h) (w.drain ds _)

/-- the second handler, entered in any state -/
theorem second (s : IS) (h : A [] s) : A (secondPrims cfg p req s) s := by
  simp only [secondPrims]
  refine w.seq (w.seq (w.cancel s h) (w.stop _)) ?_
  rw [runPrims_append]
  exact w.wait noWait _

end Walk

/-- the block lemmas of a state predicate that is to hold after every primitive -/
theorem Walk.ofAlways {req : List Tid} {I : IS → Prop}
    (submit : ∀ s, I s → s.rs.status = .running →
      Always cfg p I (submitPrims cfg p (readyTasks p s.rs.ts) s) s)
    (wait : ∀ c s, I s → Always cfg p I (waitPrims cfg p req c s) s)
    (cancel : ∀ s, I s → Always cfg p I (cancelPrims cfg s) s)
    (stop : ∀ s, I s → Always cfg p I (stopPrims cfg s) s) : Walk cfg p req (Always cfg p I) :=
  ⟨⟨always_append⟩, submit, wait, cancel, stop⟩

abbrev mainOf (cfg : Config) (p : Problem) (store : Store) (fuel : Nat) (sched : List Choice) : List Prim :=
  mainStream cfg p (reqTids p) sched (initIS cfg p store fuel)

/-- the state at interrupt instant `k` -/
abbrev stateAt (cfg : Config) (p : Problem) (store : Store) (fuel : Nat) (sched : List Choice) (k : Nat) : IS :=
  runPrims cfg p ((mainOf cfg p store fuel sched).take k) (initIS cfg p store fuel)

/-- state after `m` primitives of the first handler entered at instant `k` of the main stream -/
abbrev handlerStateAt (cfg : Config) (p : Problem) (store : Store) (fuel : Nat) (sched : List Choice) (k : Nat)
    (ds : List Choice) (m : Nat) : IS :=
  runPrims cfg p ((handlerPrims cfg p (reqTids p) ds (stateAt cfg p store fuel sched k)).take m)
    (stateAt cfg p store fuel sched k)

/-- state after `m2` primitives of the second handler entered at instant `m` of the first -/
abbrev secondStateAt (cfg : Config) (p : Problem) (store : Store) (fuel : Nat) (sched : List Choice) (k : Nat)
    (ds : List Choice) (m m2 : Nat) : IS :=
  runPrims cfg p ((secondPrims cfg p (reqTids p) (handlerStateAt cfg p store fuel sched k ds m)).take m2)
    (handlerStateAt cfg p store fuel sched k ds m)

section states
variable {I : IS → Prop} (w : Walk cfg p (reqTids p) (Always cfg p I))
  {store : Store} {fuel : Nat} (h0 : I (initIS cfg p store fuel))
include w h0

theorem Walk.stateAt (sched : List Choice) (k : Nat) : I (stateAt cfg p store fuel sched k) :=
  (w.main sched _ h0).prefix k

theorem Walk.handlerStateAt (sched : List Choice) (k : Nat) (ds : List Choice) (m : Nat) :
    I (handlerStateAt cfg p store fuel sched k ds m) :=
  (w.handler ds _ (w.stateAt h0 sched k)).prefix m

theorem Walk.secondStateAt (sched : List Choice) (k : Nat) (ds : List Choice) (m m2 : Nat) :
    I (secondStateAt cfg p store fuel sched k ds m m2) :=
  (w.second _ (w.handlerStateAt h0 sched k ds m)).prefix m2

end states

/-- the states of an interrupted run: after any prefix of the main stream, of the first handler's stream
    entered there, and of the second handler's stream entered anywhere in the first -/
inductive Instant (cfg : Config) (p : Problem) (store : Store) (fuel : Nat) : IS → Prop
  | main (sched : List Choice) (k : Nat) : Instant cfg p store fuel (stateAt cfg p store fuel sched k)
  | handler (sched : List Choice) (k : Nat) (ds : List Choice) (m : Nat) :
    Instant cfg p store fuel (handlerStateAt cfg p store fuel sched k ds m)
  | second (sched : List Choice) (k : Nat) (ds : List Choice) (m m2 : Nat) :
    Instant cfg p store fuel (secondStateAt cfg p store fuel sched k ds m m2)

theorem Walk.instant {I : IS → Prop} (w : Walk cfg p (reqTids p) (Always cfg p I)) {store : Store} {fuel : Nat}
    (h0 : I (initIS cfg p store fuel)) {s : IS} (hs : Instant cfg p store fuel s) : I s := by
  cases hs with
  | main sched k => exact w.stateAt h0 sched k
  | handler sched k ds m => exact w.handlerStateAt h0 sched k ds m
  | second sched k ds m m2 => exact w.secondStateAt h0 sched k ds m m2

end Lt
