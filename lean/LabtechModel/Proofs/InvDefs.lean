import LabtechModel.Proofs.Plan
/-!
# Hypotheses and ghost sets of the whole-run scheduler invariant

* `Acyclic`, `InstOK`, `LimitsPos`, `FuelOK`, `PlanClosed`, `Fair`: the explicit hypotheses of the
  whole-run theorems (DESIGN.md section 6), each with a concrete satisfying example (`PlanClosed`: in
  `InvPlan`, from `plan_closed`).
* `yieldedOf`, `okYieldedOf`, `submittedOf`: ghost sets read off the trace.
-/
namespace Lt

/-- dependencies have smaller tids (a naming convention; every finite DAG has one) -/
def Acyclic (p : Problem) : Prop := ∀ i c, c ∈ p.children i → p.tidOf c < p.tidOf i

/-- equal task objects have equal parameters (tid-level) -/
def InstOK (p : Problem) : Prop :=
  ∀ i j, p.tidOf i = p.tidOf j → (p.children i).map p.tidOf = (p.children j).map p.tidOf

def LimitsPos (cfg : Config) (p : Problem) : Prop :=
  0 < cfg.maxWorkers ∧ ∀ T L, p.maxPar T = some L → 0 < L

/-- enough recursion fuel for planning: more than every requested tid (under `Acyclic` each
    recursion level of `process_tasks` has a strictly smaller maximal tid) -/
def FuelOK (p : Problem) (fuel : Nat) : Prop := ∀ i ∈ p.requested, p.tidOf i < fuel

theorem FuelOK.pos_or_nil {p : Problem} {fuel : Nat} (hF : FuelOK p fuel) : 0 < fuel ∨ p.requested = [] := by
  cases hreq : p.requested with
  | nil => exact Or.inr rfl
  | cons i is => exact Or.inl (Nat.lt_of_le_of_lt (Nat.zero_le _) (hF i (by rw [hreq]; exact List.mem_cons_self)))

/-- every dependency of a planned task is planned -/
def PlanClosed (s : TS) : Prop := ∀ t ∈ s.pending, ∀ d ∈ s.ddeps t, d ∈ s.pending

/-- every wait delivers at least the outcome of the first running worker -/
def Fair (sched : List Choice) : Prop := ∀ c ∈ sched, c.finish 0 = true

def evYield : Ev → Option Tid
  | .yield t _ => some t
  | _ => none

def evOkYield : Ev → Option Tid
  | .yield t (.ok _) => some t
  | _ => none

def evSubmit : Ev → Option Tid
  | .submit t _ => some t
  | _ => none

/-- the task a worker record (`exec`: ran `run()`, `load`: loaded from cache) belongs to -/
def evRan : Ev → Option Tid
  | .exec t _ => some t
  | .load t => some t
  | _ => none

def ranOf (tr : List Ev) : List Tid := tr.filterMap evRan

def yieldedOf (tr : List Ev) : List Tid := tr.filterMap evYield
def okYieldedOf (tr : List Ev) : List Tid := tr.filterMap evOkYield
def submittedOf (tr : List Ev) : List Tid := tr.filterMap evSubmit

def yielded (rs : RS) : List Tid := yieldedOf rs.trace
def okYielded (rs : RS) : List Tid := okYieldedOf rs.trace

theorem mem_yieldedOf (tr : List Ev) (t : Tid) : t ∈ yieldedOf tr ↔ ∃ o, Ev.yield t o ∈ tr := by
  simp only [yieldedOf, List.mem_filterMap]
  constructor
  · rintro ⟨e, he, h⟩
    cases e <;> simp [evYield] at h
    subst h; exact ⟨_, he⟩
  · rintro ⟨o, ho⟩; exact ⟨_, ho, rfl⟩

theorem mem_okYieldedOf (tr : List Ev) (t : Tid) : t ∈ okYieldedOf tr ↔ ∃ v, Ev.yield t (.ok v) ∈ tr := by
  simp only [okYieldedOf, List.mem_filterMap]
  constructor
  · rintro ⟨e, he, h⟩
    cases e with
    | yield t' o =>
      cases o <;> simp [evOkYield] at h
      subst h; exact ⟨_, he⟩
    | _ => simp [evOkYield] at h
  · rintro ⟨v, hv⟩; exact ⟨_, hv, rfl⟩

theorem mem_submittedOf (tr : List Ev) (t : Tid) : t ∈ submittedOf tr ↔ ∃ uc, Ev.submit t uc ∈ tr := by
  simp only [submittedOf, List.mem_filterMap]
  constructor
  · rintro ⟨e, he, h⟩
    cases e <;> simp [evSubmit] at h
    subst h; exact ⟨_, he⟩
  · rintro ⟨o, ho⟩; exact ⟨_, ho, rfl⟩

theorem mem_ranOf (tr : List Ev) (t : Tid) :
    t ∈ ranOf tr ↔ (Ev.load t ∈ tr ∨ ∃ seen, Ev.exec t seen ∈ tr) := by
  simp only [ranOf, List.mem_filterMap]
  constructor
  · rintro ⟨e, he, h⟩
    cases e <;> simp [evRan] at h
    · subst h; exact Or.inr ⟨_, he⟩
    · subst h; exact Or.inl he
  · rintro (h | ⟨seen, h⟩)
    · exact ⟨_, h, rfl⟩
    · exact ⟨_, h, rfl⟩

/-- witness that the hypotheses are satisfiable: a diamond 3 → {1, 2} → 0 in which object 4 is a second
    object of task 0 -/
def invExP : Problem where
  tidOf := fun i => if i = 4 then 0 else i
  children := fun i => if i = 3 then [1, 2] else if i = 1 then [0] else if i = 2 then [4] else []
  requested := [3, 1]
  ty := fun t => t % 2
  maxPar := fun T => if T = 0 then some 1 else none
  cacheable := fun _ => true
  fails := fun _ => false
  dies := fun _ => false
  behave := fun t vs => some (1000 * t + (vs.map (fun o => o.getD 7)).foldl (· + ·) 0)

def invExCfg : Config := { backend := .fork, maxWorkers := 2, contOnFail := true, bust := false }

theorem invExP_acyclic : Acyclic invExP := by
  intro i c h
  simp only [invExP] at h ⊢
  split at h
  · simp at h; rcases h with h | h <;> subst h <;> simp_all
  · split at h
    · simp at h; subst h; simp_all
    · split at h
      · simp at h; subst h; simp_all
      · simp at h

example : Acyclic invExP := invExP_acyclic

example : InstOK invExP := by
  intro i j h
  simp only [invExP] at h ⊢
  by_cases h4 : i = 4 <;> by_cases h4' : j = 4 <;> simp_all <;> grind

theorem invEx_limits (be : Backend) (mw : Nat) (hmw : 0 < mw) :
    LimitsPos { invExCfg with backend := be, maxWorkers := mw } invExP := by
  refine ⟨hmw, ?_⟩
  intro T L h
  simp only [invExP] at h
  split at h <;> simp at h
  omega

example : LimitsPos invExCfg invExP := invEx_limits .fork 2 (by decide)

theorem invExP_fuel : FuelOK invExP 4 := by
  intro i hi
  simp [invExP] at hi ⊢
  rcases hi with h | h <;> subst h <;> simp

example : FuelOK invExP 4 := invExP_fuel

example : Fair [⟨fun _ => true⟩, ⟨fun i => i == 0⟩] := by
  intro c hc
  simp at hc
  rcases hc with h | h <;> subst h <;> rfl

end Lt
