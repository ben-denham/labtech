import LabtechModel.Proofs.Inv2FailFast
/-!
# Whole-run corollaries of `ValInv` / `FlagInv` (C10, C01, C03, C08)

C01 is the case in which nothing fails: `RefHyp.noFailure`, then `loopHead_ref` (`RefInv` of
`Proofs/InvRef.lean` at every loop head) and `run_returns_ref`.
-/
namespace Lt
variable (cfg : Config) (p : Problem) (store : Store) (fuel : Nat) (sched : List Choice) (obj : Tid → Iid)

theorem finish_store (req : List Tid) (rs : RS) : (finish req rs).store = rs.store := by
  simp only [finish]; split <;> (try split) <;> rfl

theorem run_store :
    (run cfg p store fuel sched).store = (loopHead cfg p store fuel sched).store := finish_store _ _

/-- a fair schedule that is long enough ends with every planned task yielded -/
theorem loopHead_all_yielded (hA : Acyclic p) (hF : FuelOK p fuel) (hL : LimitsPos cfg p) (hfair : Fair sched)
    (hlen : (plan cfg p store fuel).pending.length + 1 ≤ sched.length)
    (hrun : (loopHead cfg p store fuel sched).status = .running) :
    loopCond (loopHead cfg p store fuel sched) = false ∧
    ∀ t, t ∈ (plan cfg p store fuel).pending ↔ t ∈ yielded (loopHead cfg p store fuel sched) := by
  have hlc := (loopHead_done cfg p store fuel sched hA hF hL hfair hlen).resolve_left (fun h => h hrun)
  exact ⟨hlc, (reach_all cfg p store fuel sched).1.all_yielded hlc⟩

/-- C10: whatever fails, a (fair, long enough) run with `continue_on_failure` returns, for exactly the
    requested tasks that have a reference value, that value, in request order -/
theorem run_returns_refF (H : RefHypF p obj) (hcf : cfg.contOnFail = true ∨ NoFailure cfg p store obj fuel)
    (hF : FuelOK p fuel) (hL : LimitsPos cfg p) (hfair : Fair sched)
    (hlen : (plan cfg p store fuel).pending.length + 1 ≤ sched.length) :
    (run cfg p store fuel sched).status =
      .returned ((dedup (reqTids p)).filterMap
        (fun t => (refEvalF cfg p store obj t).map (fun v => (t, v)))) := by
  have hrun := (loopHead_val cfg p store fuel sched obj H hcf).run
  obtain ⟨hlc, _⟩ := loopHead_all_yielded cfg p store fuel sched H.acyc hF hL hfair hlen hrun
  -- the run returned something; `run_returned_refF` says what
  obtain ⟨r, hret⟩ : ∃ r, (run cfg p store fuel sched).status = .returned r := by
    show ∃ r, (finish (reqTids p) (loopHead cfg p store fuel sched)).status = .returned r
    simp only [finish, hrun, hlc, Bool.false_eq_true, if_false]
    exact ⟨_, rfl⟩
  rw [hret, ← (run_returned_refF cfg p store fuel sched obj H hF.pos_or_nil r hret).2.2]

/-- C08/C10: the store at a loop head is the pre-state overridden, for the tasks delivered so far, by
    `storeAfter` -/
theorem loopHead_store (H : RefHypF p obj) (hcf : cfg.contOnFail = true ∨ NoFailure cfg p store obj fuel)
    (t : Tid) :
    lookup t (loopHead cfg p store fuel sched).store =
      if t ∈ yielded (loopHead cfg p store fuel sched) then storeAfter cfg p store obj t
      else lookup t store := by
  have hr := loopHead_val cfg p store fuel sched obj H hcf
  have hf := (loopHead_flag cfg p store fuel sched).2 hr.run
  split
  · next h => exact hr.stoDone t (Or.inl h)
  · next h => exact hf.frame t h (by simp)

/-- under the hypotheses of C01 (nothing fails, `run()` total, sound cache pre-state) the failure-aware
    reference evaluation is the plain one -/
theorem refEvalF_eq_refEval (H : RefHyp p obj) (hS : StoreSound p obj store) :
    ∀ n i, p.tidOf i < n → refEvalF cfg p store obj (p.tidOf i) = refEval p obj (p.tidOf i) := by
  intro n
  induction n with
  | zero => intro i h; exact absurd h (Nat.not_lt_zero _)
  | succ n ih =>
    intro i hi
    rw [refEvalF_unfold cfg p store obj H.acyc H.objOK i, refEval_unfold p obj H.acyc H.objOK i]
    have hd : diesIn cfg p (p.tidOf i) = false := by
      simp only [diesIn]; split
      · rfl
      · exact (H.noFail _).2
    simp only [hd, (H.noFail (p.tidOf i)).1, Bool.false_eq_true, if_false]
    have hmap : ((p.children (obj (p.tidOf i))).map p.tidOf).map (refEvalF cfg p store obj)
        = ((p.children (obj (p.tidOf i))).map p.tidOf).map (refEval p obj) := by
      rw [List.map_map, List.map_map]
      apply List.map_congr_left
      intro c hc
      have hlt := H.objOK.child_lt H.acyc i c hc
      exact ih c (Nat.lt_of_lt_of_le hlt (Nat.le_of_lt_succ hi))
    split
    · next huc =>
      have hsome := useCache_isSome cfg p store _ huc
      cases hl : lookup (p.tidOf i) store with
      | none => rw [hl] at hsome; simp at hsome
      | some v =>
        rw [← refEval_unfold p obj H.acyc H.objOK i]
        exact (hS _ _ hl).symm
    · rw [hmap]

/-- under `BehaveTotal` and `NoFail` every task that has an object has a reference value -/
theorem refEval_isSome (H : RefHyp p obj) :
    ∀ n i, p.tidOf i < n → (refEval p obj (p.tidOf i)).isSome := by
  intro n
  induction n with
  | zero => intro i h; exact absurd h (Nat.not_lt_zero _)
  | succ n ih =>
    intro i hi
    rw [refEval_unfold p obj H.acyc H.objOK i]
    have := H.total (p.tidOf i) (((p.children (obj (p.tidOf i))).map p.tidOf).map (refEval p obj)) (by
      intro o ho
      simp only [List.map_map, List.mem_map] at ho
      obtain ⟨c, hc, rfl⟩ := ho
      have hlt := H.objOK.child_lt H.acyc i c hc
      have := ih c (Nat.lt_of_lt_of_le hlt (Nat.le_of_lt_succ hi))
      intro h0
      simp only [Function.comp] at h0
      rw [h0] at this
      simp at this)
    cases hb : p.behave (p.tidOf i) (((p.children (obj (p.tidOf i))).map p.tidOf).map (refEval p obj)) with
    | none => exact absurd hb this
    | some v => rfl

/-- under the hypotheses of C01 every planned task has a (failure-aware) reference value -/
theorem RefHyp.noFailure {p : Problem} {obj : Tid → Iid} (H : RefHyp p obj) (cfg : Config) (store : Store)
    (fuel : Nat) (hS : StoreSound p obj store) : NoFailure cfg p store obj fuel := by
  intro t ht
  obtain ⟨_, hti⟩ := planned_repr cfg p store fuel t ht
  rw [← hti, refEvalF_eq_refEval cfg p store obj H hS _ _ (Nat.lt_succ_self _)]
  exact refEval_isSome p obj H _ _ (Nat.lt_succ_self _)

/-- the value invariant of C01 at every loop head, read off `ValInv` and `FlagInv` -/
theorem loopHead_ref (H : RefHyp p obj) (hS : StoreSound p obj store) :
    RefInv cfg p obj store (reqTids p) [] (loopHead cfg p store fuel sched) := by
  have HF : RefHypF p obj := ⟨H.acyc, H.inst, H.objOK⟩
  have hnf := H.noFailure cfg store fuel hS
  have hv := loopHead_val cfg p store fuel sched obj HF (Or.inr hnf)
  have hc := (reach_all cfg p store fuel sched).1
  have hf := (loopHead_flag cfg p store fuel sched).2 hv.run
  -- a yielded task is planned: it has a reference value, the same in both evaluations
  have hval : ∀ t, t ∈ yielded (loopHead cfg p store fuel sched) →
      ∃ v, refEvalF cfg p store obj t = some v ∧ refEval p obj t = some v := by
    intro t ht
    have htP := (hc.ts.cover t).mpr (Or.inr (Or.inr ht))
    obtain ⟨_, hti⟩ := planned_repr cfg p store fuel t htP
    have heq := refEvalF_eq_refEval cfg p store obj H hS _ (repr0 (plan cfg p store fuel) t) (Nat.lt_succ_self _)
    rw [hti] at heq
    have hsome := hnf t htP
    cases hr : refEvalF cfg p store obj t with
    | none => rw [hr] at hsome; cases hsome
    | some v => exact ⟨v, rfl, heq ▸ hr⟩
  exact {
    yOk := by
      intro t o ho
      obtain ⟨v, h1, h2⟩ := hval t ((mem_yieldedOf _ _).mpr ⟨o, ho⟩)
      exact ⟨v, (hv.yOk t o ho).trans ((refOutcome_ok_iff cfg p store obj t v).mpr h1), h2⟩
    storeSound := by
      intro t v hl
      rw [loopHead_store cfg p store fuel sched obj HF (Or.inr hnf) t] at hl
      split at hl
      · next hy =>
        obtain ⟨w, h1, h2⟩ := hval t hy
        simp only [storeAfter, h1] at hl
        split at hl
        · exact (Option.some.inj hl) ▸ h2
        · exact hS t v hl
      · exact hS t v hl
    storeFrame := fun t ht _ => hf.frame t ht (by simp)
    flag := hf.flag
    capture := fun t ht v hy => (hv.capture t ht v).mpr hy
    run := hv.run }

/-- C01: a run of tasks that all succeed returns, for exactly the requested tasks in request order,
    the values of the plain sequential dependency-first evaluation — whatever the backend, worker
    count, per-type limits, completion order and (sound) cache pre-state -/
theorem run_returns_ref (H : RefHyp p obj) (hS : StoreSound p obj store) (hF : FuelOK p fuel)
    (hL : LimitsPos cfg p) (hfair : Fair sched)
    (hlen : (plan cfg p store fuel).pending.length + 1 ≤ sched.length) :
    (run cfg p store fuel sched).status =
      .returned ((dedup (reqTids p)).filterMap (fun t => (refEval p obj t).map (fun v => (t, v)))) ∧
    ∀ t ∈ reqTids p, (refEval p obj t).isSome := by
  constructor
  · rw [run_returns_refF cfg p store fuel sched obj ⟨H.acyc, H.inst, H.objOK⟩
      (Or.inr (H.noFailure cfg store fuel hS)) hF hL hfair hlen]
    congr 1
    apply filterMap_congr'
    intro t ht
    obtain ⟨i, _, rfl⟩ := List.mem_map.mp ((mem_dedup _ _).mp ht)
    rw [refEvalF_eq_refEval cfg p store obj H hS _ i (Nat.lt_succ_self _)]
  · intro t ht
    obtain ⟨i, _, rfl⟩ := List.mem_map.mp ht
    exact refEval_isSome p obj H _ i (Nat.lt_succ_self _)

end Lt
