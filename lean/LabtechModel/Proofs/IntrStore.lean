import LabtechModel.Proofs.IntrRun
/-!
# M10: the store holds only what was there before or what a worker of that task computed
-/
namespace Lt

variable {cfg : Config} {p : Problem}

/-- `(t, v)` was computed by an execution of `t`'s `run()` that is on record, and `t` is cacheable -/
def Wrote (p : Problem) (tr : List Ev) (t : Tid) (v : Val) : Prop :=
  p.cacheable (p.ty t) = true ∧ ∃ seen, Ev.exec t seen ∈ tr ∧ p.behave t seen = some v

def StoreOK (p : Problem) (store0 : Store) (s : IS) : Prop :=
  ∀ t v, (t, v) ∈ s.rs.store → (t, v) ∈ store0 ∨ Wrote p s.rs.trace t v

/-- serial runner: the outcome held between `run()` and the save is on record -/
def SerOK (p : Problem) (s : IS) : Prop :=
  ∀ j v, s.cur = some j → s.curOut = some (.ok v) → j.useCache = false →
    ∃ seen, Ev.exec j.tid seen ∈ s.rs.trace ∧ p.behave j.tid seen = some v

def SI (p : Problem) (store0 : Store) (s : IS) : Prop := StoreOK p store0 s ∧ SerOK p s

theorem Wrote.mono {tr : List Ev} {l : List Ev} {t : Tid} {v : Val} (h : Wrote p tr t v) :
    Wrote p (tr ++ l) t v := by
  obtain ⟨h1, seen, h2, h3⟩ := h
  exact ⟨h1, seen, List.mem_append_left _ h2, h3⟩

theorem runOutcome_ok_nocache (ts : TS) (st : Store) (j : Job) (v : Val) (hu : j.useCache = false)
    (h : runOutcome p ts st j = .ok v) :
    runEvents p ts j = [Ev.exec j.tid (reads p (repr0 ts j.tid) (j.snap.getD []))] ∧
    p.behave j.tid (reads p (repr0 ts j.tid) (j.snap.getD [])) = some v := by
  simp only [runOutcome, hu, Bool.false_eq_true, if_false] at h
  refine ⟨by simp [runEvents, hu], ?_⟩
  split at h
  · simp at h
  · split at h
    · next v' hb => simp only [Outcome.ok.injEq] at h; rw [← h]; exact hb
    · simp at h

theorem saveIfRan_mem (st : Store) (j : Job) (o : Outcome) (t : Tid) (v : Val)
    (h : (t, v) ∈ saveIfRan p st j o) :
    (t, v) ∈ st ∨ (t = j.tid ∧ o = .ok v ∧ p.cacheable (p.ty j.tid) = true ∧ j.useCache = false) := by
  unfold saveIfRan at h
  split at h
  · next v' =>
    split at h
    · next hc =>
      simp only [Bool.and_eq_true, Bool.not_eq_true'] at hc
      simp only [List.mem_cons, Prod.mk.injEq, List.mem_filter] at h
      rcases h with ⟨rfl, rfl⟩ | h
      · exact Or.inr ⟨rfl, rfl, hc.1, hc.2⟩
      · exact Or.inl h.1
    · exact Or.inl h
  · exact Or.inl h

theorem saveBegin_mem (st : Store) (j : Job) (o : Outcome) (t : Tid) (v : Val)
    (h : (t, v) ∈ saveBegin p st j o) : (t, v) ∈ st := by
  unfold saveBegin at h
  split at h
  · split at h
    · exact (List.mem_filter.mp h).1
    · exact h
  · exact h

theorem saveAll_mem (ts : TS) : ∀ (fin : List Job) (st : Store) (t : Tid) (v : Val),
    (t, v) ∈ saveAll p ts fin st →
    (t, v) ∈ st ∨ ∃ j ∈ fin, j.tid = t ∧ p.cacheable (p.ty t) = true ∧ j.useCache = false ∧
      ∃ st', jobOutcome p ts st' j = .ok v := by
  intro fin
  induction fin with
  | nil => intro st t v h; exact Or.inl h
  | cons j fin ih =>
    intro st t v h
    simp only [saveAll] at h
    rcases ih _ t v h with h | ⟨j', hj', h'⟩
    · rcases saveIfRan_mem st j _ t v h with h | ⟨rfl, ho, hc, hu⟩
      · exact Or.inl h
      · exact Or.inr ⟨j, List.mem_cons_self, rfl, hc, hu, st, ho⟩
    · exact Or.inr ⟨j', List.mem_cons_of_mem _ hj', h'⟩

theorem applyPrim_SI (store0 : Store) (q : Prim) (s : IS) (h : SI p store0 s) :
    SI p store0 (applyPrim cfg p q s) := by
  obtain ⟨l, hl, _⟩ := trace_ext q s
  by_cases ht : q.touchesStore = false
  · obtain ⟨e1, e2, e3⟩ := applyPrim_store q s ht
    refine ⟨?_, ?_⟩
    · intro t v hv
      rw [e1] at hv
      rw [hl]
      exact (h.1 t v hv).imp id Wrote.mono
    · intro j v hj ho hu
      rw [e2] at hj; rw [e3] at ho
      obtain ⟨seen, h1, h2⟩ := h.2 j v hj ho hu
      exact ⟨seen, by rw [hl]; exact List.mem_append_left _ h1, h2⟩
  · by_cases hrun : ¬ s.rs.status = .running
    · rw [applyPrim_stopped q s hrun]; exact h
    have hrun : s.rs.status = .running := Decidable.not_not.mp hrun
    rw [applyPrim_running q s hrun] at hl ⊢
    cases q
    case consumeResults c =>
      refine ⟨?_, ?_⟩
      · intro t v hv
        simp only [stepPrim] at hv ⊢
        rcases saveAll_mem _ _ _ t v hv with hv | ⟨j, hj, rfl, hc, hu, st', ho⟩
        · exact (h.1 t v hv).imp id (fun w => by rw [List.append_assoc]; exact w.mono)
        · right
          have hd : p.dies j.tid = false := by
            cases hd : p.dies j.tid with
            | false => rfl
            | true => simp [jobOutcome, hd] at ho
          simp only [jobOutcome, hd, Bool.false_eq_true, if_false] at ho
          obtain ⟨he, hb⟩ := runOutcome_ok_nocache _ _ j v hu ho
          refine ⟨hc, _, ?_, hb⟩
          apply List.mem_append_right
          simp only [List.mem_flatten, List.mem_map]
          exact ⟨_, ⟨j, hj, rfl⟩, by simp [jobEvents, hd, he]⟩
      · intro j v hj ho hu
        simp only [stepPrim] at hj ho ⊢
        obtain ⟨seen, h1, h2⟩ := h.2 j v hj ho hu
        exact ⟨seen, by rw [List.append_assoc]; exact List.mem_append_left _ h1, h2⟩
    case popDeque =>
      refine ⟨?_, ?_⟩
      · intro t v hv
        rw [hl]
        have : (stepPrim cfg p Prim.popDeque s).rs.store = s.rs.store := by
          simp only [stepPrim]; split <;> rfl
        rw [this] at hv
        exact (h.1 t v hv).imp id Wrote.mono
      · intro j v hj ho hu
        cases hq : s.rs.queued with
        | nil =>
          simp only [stepPrim, hq] at hj ho
          obtain ⟨seen, h1, h2⟩ := h.2 j v hj ho hu
          exact ⟨seen, by rw [hl]; exact List.mem_append_left _ h1, h2⟩
        | cons a rest =>
          simp only [stepPrim, hq] at ho
          simp at ho
    case serialRun =>
      cases hc : s.cur with
      | none =>
        have : stepPrim cfg p Prim.serialRun s = s := by simp [stepPrim, hc]
        rw [this]; exact h
      | some j =>
        refine ⟨?_, ?_⟩
        · intro t v hv
          simp only [stepPrim, hc] at hv ⊢
          exact (h.1 t v hv).imp id (fun w => by rw [List.append_assoc]; exact w.mono)
        · intro j' v hj ho hu
          simp only [stepPrim, hc, Option.some.injEq] at hj ho ⊢
          subst hj
          obtain ⟨he, hb⟩ := runOutcome_ok_nocache _ _ j v hu ho
          exact ⟨_, by rw [he]; simp, hb⟩
    case serialSaveBegin =>
      cases hc : s.cur with
      | none =>
        have : stepPrim cfg p Prim.serialSaveBegin s = s := by simp [stepPrim, hc]
        rw [this]; exact h
      | some j =>
        cases hco : s.curOut with
        | none =>
          have : stepPrim cfg p Prim.serialSaveBegin s = s := by simp [stepPrim, hc, hco]
          rw [this]; exact h
        | some o =>
          refine ⟨?_, ?_⟩
          · intro t v hv
            simp only [stepPrim, hc, hco] at hv ⊢
            exact h.1 t v (saveBegin_mem _ _ _ t v hv)
          · intro j' v hj ho hu
            simp only [stepPrim, hc, hco, Option.some.injEq] at hj ho ⊢
            subst hj; subst ho
            exact h.2 j v hc hco hu
    case serialSaveEnd =>
      cases hc : s.cur with
      | none =>
        have : stepPrim cfg p Prim.serialSaveEnd s = s := by simp [stepPrim, hc]
        rw [this]; exact h
      | some j =>
        cases hco : s.curOut with
        | none =>
          have : stepPrim cfg p Prim.serialSaveEnd s = s := by simp [stepPrim, hc, hco]
          rw [this]; exact h
        | some o =>
          refine ⟨?_, ?_⟩
          · intro t v hv
            simp only [stepPrim, hc, hco] at hv ⊢
            rcases saveIfRan_mem _ _ _ t v hv with hv | ⟨rfl, rfl, hca, hu⟩
            · exact h.1 t v hv
            · right
              obtain ⟨seen, h1, h2⟩ := h.2 j v hc hco hu
              exact ⟨hca, seen, h1, h2⟩
          · intro j' v hj ho hu
            simp only [stepPrim, hc, hco, Option.some.injEq] at hj ho ⊢
            subst hj; subst ho
            exact h.2 j v hc hco hu
    all_goals exact absurd rfl ht

theorem runPrims_SI (store0 : Store) (ps : List Prim) (s : IS) (h : SI p store0 s) :
    SI p store0 (runPrims cfg p ps s) :=
  (always_of_step ps s (fun q _ s => applyPrim_SI store0 q s) h).last

theorem SI_init (store : Store) (fuel : Nat) : SI p store (initIS cfg p store fuel) :=
  ⟨fun t v hv => Or.inl hv, fun j v hj _ _ => by simp [initIS] at hj⟩

end Lt
