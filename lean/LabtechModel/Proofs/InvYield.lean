import LabtechModel.Proofs.InvRun
/-!
# The master invariant is preserved by handling one yielded outcome (`process_completed_tasks` body)
-/
namespace Lt
variable {cfg : Config} {p : Problem} {P : TS}

/-- the runner stores a successful result right before yielding it -/
def addRes (res : List (Tid × Val)) (t : Tid) : Outcome → List (Tid × Val)
  | .ok v => (t, v) :: res.filter (fun kv => kv.1 ≠ t)
  | _ => res

theorem processYield_shape (cfg : Config) (req : List Tid) (rs : RS) (t : Tid) (o : Outcome)
    (s' : TS) (rem : List Tid) (hc : completeTask rs.ts t = some (s', rem)) (hrun : rs.status = .running) :
    (processYield cfg req rs t o).ts = s' ∧
    (processYield cfg req rs t o).futs = rs.futs ∧
    (processYield cfg req rs t o).queued = rs.queued ∧
    (processYield cfg req rs t o).running = rs.running ∧
    (∃ tail, (processYield cfg req rs t o).trace = rs.trace ++ Ev.yield t o :: tail ∧
       ∀ e ∈ tail, ∃ a b, e = Ev.remove a b) ∧
    ((processYield cfg req rs t o).status = .running ∨
       (processYield cfg req rs t o).status = .raised (.labError t)) ∧
    ((processYield cfg req rs t o).status = .running →
       (processYield cfg req rs t o).results = removeResults (addRes rs.results t o) rem) := by
  refine ⟨?_, (processYield_frame cfg req rs t o).2.2.1, (processYield_frame cfg req rs t o).1,
    (processYield_frame cfg req rs t o).2.1, processYield_trace cfg req rs t o, ?_, ?_⟩ <;>
    cases o <;> cases hcf : cfg.contOnFail <;> simp [processYield, hc, addRes, hrun, hcf]

theorem quiet_removes (tail : List Ev) (h : ∀ e ∈ tail, ∃ a b, e = Ev.remove a b) : Quiet tail := by
  intro e he
  obtain ⟨a, b, rfl⟩ := h e he
  exact ⟨rfl, rfl⟩

theorem mem_addRes (res : List (Tid × Val)) (t : Tid) (o : Outcome) (hno : ∀ w, (t, w) ∉ res)
    (d : Tid) (w : Val) :
    (d, w) ∈ addRes res t o ↔ ((d = t ∧ o = .ok w) ∨ (d ≠ t ∧ (d, w) ∈ res)) := by
  by_cases hdt : d = t
  · subst hdt
    cases o with
    | ok v =>
      simp only [addRes, List.mem_cons, Prod.mk.injEq, true_and, List.mem_filter, ne_eq,
        not_true_eq_false, decide_false, Bool.false_eq_true, and_false, or_false, Outcome.ok.injEq]
      simp only [false_and, or_false]
      exact eq_comm
    | exc | died => simp [addRes, hno]
  · cases o <;> simp [addRes, hdt]

theorem addRes_nodup (res : List (Tid × Val)) (t : Tid) (o : Outcome) (h : (res.map Prod.fst).Nodup) :
    ((addRes res t o).map Prod.fst).Nodup := by
  cases o with
  | ok v =>
    simp only [addRes, List.map_cons, List.nodup_cons]
    refine ⟨?_, keys_filter_nodup _ _ h⟩
    simp only [List.mem_map, List.mem_filter, ne_eq, decide_eq_true_eq, not_exists, not_and]
    intro kv hkv hk
    exact absurd hk hkv.2
  | exc | died => exact h

theorem yieldStep_inv {extra : List Tid} {rs : RS} {t : Tid}
    (req : List Tid) (o : Outcome) (hP : PI P) (hc : Core p P rs) (he : Exec cfg P (t :: extra) rs)
    (hrun : rs.status = .running) :
    Core p P (processYield cfg req { rs with futs := rs.futs.filter (· ≠ t) } t o) ∧
    ((processYield cfg req { rs with futs := rs.futs.filter (· ≠ t) } t o).status = .running →
      Exec cfg P extra (processYield cfg req { rs with futs := rs.futs.filter (· ≠ t) } t o)) ∧
    yielded (processYield cfg req { rs with futs := rs.futs.filter (· ≠ t) } t o) = yielded rs ++ [t] := by
  have htF : t ∈ rs.futs := he.perm.mem_iff.mp (by simp)
  have htA : t ∈ rs.ts.active := (hc.futsAct t).mp htF
  have htY : t ∉ yielded rs := hc.ts.disjAY t htA
  obtain ⟨s', rem, hct, hts', hpend, hact, hrem⟩ := completeTask_TSInv P hP _ rs.ts t hc.ts htA
  obtain ⟨h1, h2, h3, h4, ⟨tail, htr, htail⟩, hst, hres⟩ :=
    processYield_shape cfg req { rs with futs := rs.futs.filter (· ≠ t) } t o s' rem hct hrun
  generalize processYield cfg req { rs with futs := rs.futs.filter (· ≠ t) } t o = rs' at *
  simp only at h2 h3 h4 htr hres
  have hqt := quiet_removes tail htail
  have htr' : rs'.trace = (rs.trace ++ [Ev.yield t o]) ++ tail := by rw [htr]; simp
  have hY : yieldedOf rs'.trace = yielded rs ++ [t] := by
    rw [htr', yieldedOf_append_quiet _ _ hqt]
    simp [yieldedOf, evYield, yielded]
  have hR : ranOf rs'.trace = ranOf rs.trace := by
    rw [htr', ranOf_append_noran _ _ (fun e he' => by obtain ⟨a, b, rfl⟩ := htail e he'; rfl)]
    simp [ranOf, evRan]
  have hS : submittedOf rs'.trace = submittedOf rs.trace := by
    rw [htr', submittedOf_append_quiet _ _ hqt]
    simp [submittedOf, evSubmit]
  have hmemY : ∀ d w, Ev.yield d (.ok w) ∈ rs'.trace ↔
      (Ev.yield d (.ok w) ∈ rs.trace ∨ (d = t ∧ o = .ok w)) := by
    intro d w
    rw [htr', mem_yield_append_quiet _ _ hqt]
    simp only [List.mem_append, List.mem_singleton, Ev.yield.injEq, eq_comm (a := Outcome.ok w)]
  have hcore : Core p P rs' := {
    ts := by rw [yielded, hY, h1]; exact hts'
    futsAct := by
      intro x
      rw [h2, h1, hact]
      simp only [List.mem_filter, hc.futsAct x]
    ndF := by rw [h2]; exact hc.ndF.filter _
    hist := by
      rw [htr]
      apply hc.hist.append_trivial
      intro e hemem pre
      rcases List.mem_cons.mp hemem with h | h
      · subst h; trivial
      · obtain ⟨a, b, rfl⟩ := htail e h; trivial
    subNd := by rw [hS]; exact hc.subNd
    subAct := by
      intro x
      rw [hS, yielded, hY, h1, hact, hc.subAct x]
      simp only [List.mem_filter, ne_eq, decide_eq_true_eq, List.mem_append, List.mem_singleton]
      grind
    noKey := by
      rcases hst with h | h <;> rw [h] <;> simp
    noRet := by
      intro r
      rcases hst with h | h <;> rw [h] <;> simp
    ranNd := by rw [hR]; exact hc.ranNd }
  refine ⟨hcore, ?_, hY⟩
  intro hrun'
  have hres' := hres hrun'
  have hnoT : ∀ w, Ev.yield t (.ok w) ∉ rs.trace := by
    intro w hw
    exact htY ((mem_yieldedOf _ _).mpr ⟨_, hw⟩)
  have hnoTres : ∀ w, (t, w) ∉ rs.results := by
    intro w hw
    exact hnoT w ((he.res t w).mp hw).1
  have hpdt' : ∀ d, s'.pendDependents d = (rs.ts.pendDependents d).filter (· ≠ t) := by
    intro d
    rw [hts'.pdt, hc.ts.pdt, filter_notin_snoc]
  have hdual : ∀ d, t ∈ rs.ts.pendDependents d ↔ d ∈ P.ddeps t := by
    intro d
    rw [hc.ts.mem_pdt, hP.dual d t]
    exact ⟨fun h => h.1, fun h => ⟨h, htY⟩⟩
  exact {
    perm := by
      rw [h3, h4, h2]
      exact perm_filter_ne _ _ _ _ he.perm hc.ndF
    res := by
      intro d w
      rw [hres', h1]
      simp only [removeResults, List.mem_filter, decide_eq_true_eq]
      rw [mem_addRes _ _ _ hnoTres, hrem d, hmemY d w, he.res d w]
      -- `d`'s dependents lose `t`, and only if `t` depends on `d`
      have hY : d = t → Ev.yield d (.ok w) ∉ rs.trace := fun h => h ▸ hnoT w
      have hON : rs.ts.pendDependents d = [] → s'.pendDependents d = [] := fun h => by
        rw [hpdt', h]; rfl
      have hD : d ∉ P.ddeps t → s'.pendDependents d = rs.ts.pendDependents d := fun hdd => by
        rw [hpdt', filter_ne_self]; exact fun hmem => hdd ((hdual d).mp hmem)
      grind
    resNd := by
      rw [hres']
      exact keys_filter_nodup _ _ (addRes_nodup _ _ _ he.resNd)
    snapOK := by
      intro j hj snap hs
      rw [h3, h4] at hj
      intro d hd v
      rw [hmemY d v]
      have hdt : d ≠ t := fun h => htY (h ▸ hc.ts.actDeps _ (he.job_active hc j hj) d hd)
      simp [he.snapOK j hj snap hs d hd v, hdt]
    runSnap := by rw [h4]; exact he.runSnap
    spawnSnap := by rw [h3]; exact he.spawnSnap
    serialRun := by rw [h4]; exact he.serialRun
    ranSub := by
      intro x hx
      rw [hR] at hx
      rw [yielded, hY]
      rcases he.ranSub x hx with h | h
      · exact Or.inl (List.mem_append_left _ h)
      · rcases List.mem_cons.mp h with h' | h'
        · subst h'; exact Or.inl (List.mem_append_right _ (by simp))
        · exact Or.inr h' }

end Lt
