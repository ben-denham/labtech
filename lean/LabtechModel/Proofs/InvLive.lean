import LabtechModel.Proofs.InvLoop
/-!
# Liveness: the submit phase exhausts the ready tasks, no deadlock, termination under fair schedules
-/
namespace Lt
variable {cfg : Config} {p : Problem} {P : TS}

/-- a task of the walked list that `get_ready_tasks` does not return is blocked by a pending
    dependency or by its type's limit (same statement as `Props.C05.not_ready_means_blocked`) -/
theorem readyAux_blocked (p : Problem) (s : TS) :
    ∀ (l : List Tid) (c : Nat → Nat) (t : Tid), t ∈ l → t ∉ readyAux p s l c →
      s.pendDeps t ≠ [] ∨ ∃ L, p.maxPar (p.ty t) = some L ∧
        L ≤ c (p.ty t) + typeCount p (readyAux p s l c) (p.ty t) := by
  intro l
  induction l with
  | nil => intro c t h; simp at h
  | cons x rest ih =>
    -- the walk only ever raises the counters, so a refusal at `x` still stands at the end
    intro c t hmem hnot
    have h1 := ih c t
    have h2 := ih (bump c (p.ty x)) t
    have hnil := @List.length_pos_iff _ (s.pendDeps x)
    simp only [readyAux, typeCount, bump, List.mem_cons] at *
    grind

/-- `get_ready_tasks` reads the scheduler state only through the pending-dependency sets -/
theorem readyAux_congr (p : Problem) (s s' : TS) (h : s.pendDeps = s'.pendDeps) :
    ∀ (l : List Tid) (c : Nat → Nat), readyAux p s l c = readyAux p s' l c := by
  intro l
  induction l with
  | nil => intro c; rfl
  | cons x rest ih =>
    intro c
    simp only [readyAux, h, ih]

theorem readyAux_nil (p : Problem) (s : TS) :
    ∀ (l : List Tid) (cnt : Nat → Nat),
      (∀ t ∈ l, s.pendDeps t ≠ [] ∨ ∃ L, p.maxPar (p.ty t) = some L ∧ L ≤ cnt (p.ty t)) →
      readyAux p s l cnt = [] := by
  intro l
  induction l with
  | nil => intro cnt _; rfl
  | cons x rest ih =>
    intro cnt h
    have hrest := ih cnt (fun t ht => h t (List.mem_cons_of_mem _ ht))
    have hx := h x List.mem_cons_self
    have hnil := @List.length_pos_iff _ (s.pendDeps x)
    simp only [readyAux]
    grind

theorem exhaust_aux (p : Problem) (s : TS) (R : List Tid)
    (hR : R = readyAux p s s.pending (typeCount p s.active)) :
    readyTasks p { s with pending := s.pending.filter (· ∉ R), active := s.active ++ R } = [] := by
  simp only [readyTasks]
  rw [readyAux_congr p { s with pending := s.pending.filter (· ∉ R), active := s.active ++ R } s rfl]
  apply readyAux_nil
  intro t ht
  simp only [List.mem_filter, decide_eq_true_eq] at ht
  have hnot : t ∉ readyAux p s s.pending (typeCount p s.active) := hR ▸ ht.2
  rcases readyAux_blocked p s s.pending (typeCount p s.active) t ht.1 hnot with h1 | ⟨L, hL, hle⟩
  · exact Or.inl h1
  · exact Or.inr ⟨L, hL, by rw [typeCount_append, hR]; exact hle⟩

/-- C05: after the submit phase `get_ready_tasks` has nothing left to offer -/
theorem submit_exhausts (cfg : Config) (p : Problem) (rs : RS) (h : rs.ts.pending.Nodup) :
    readyTasks p (submitAll cfg p (readyTasks p rs.ts) rs).ts = [] := by
  have hnd : (readyTasks p rs.ts).Nodup := (readyAux_sublist p rs.ts rs.ts.pending _).nodup h
  have hts := (submitAll_all cfg p (readyTasks p rs.ts) rs hnd
    (fun t ht => (readyTasks_no_pending_deps p rs.ts t ht).2)).1
  rw [hts]
  exact exhaust_aux p rs.ts _ rfl

/-- C11 core: when nothing is ready although work is pending, something is in flight -/
theorem pending_has_future (hCl : PlanClosed P)
    (hLt : ∀ t d, d ∈ P.ddeps t → d < t) (hLim : LimitsPos cfg p) {rs : RS} (hc : Core p P rs)
    (hex : readyTasks p rs.ts = []) (hpend : rs.ts.pending ≠ []) : rs.futs ≠ [] := by
  intro hf
  have hact : rs.ts.active = [] := by
    apply List.eq_nil_iff_forall_not_mem.mpr
    intro x hx
    have := (hc.futsAct x).mpr hx
    rw [hf] at this
    simp at this
  have claim : ∀ n t, t < n → t ∉ rs.ts.pending := by
    intro n
    induction n with
    | zero => intro t h; exact absurd h (Nat.not_lt_zero t)
    | succ n ih =>
      intro t hlt hmem
      have hnot : t ∉ readyAux p rs.ts rs.ts.pending (typeCount p rs.ts.active) := by
        have := hex; simp only [readyTasks] at this; rw [this]; simp
      rcases readyAux_blocked p rs.ts rs.ts.pending (typeCount p rs.ts.active) t hmem hnot with h1 | ⟨L, hL, hle⟩
      · obtain ⟨d, hd⟩ := List.exists_mem_of_ne_nil _ h1
        rw [hc.ts.mem_pd] at hd
        have htP : t ∈ P.pending := (hc.ts.cover t).mpr (Or.inl hmem)
        have hdP : d ∈ P.pending := hCl t htP d hd.1
        have hdlt : d < t := hLt t d hd.1
        rcases (hc.ts.cover d).mp hdP with h | h | h
        · exact ih d (Nat.lt_of_lt_of_le hdlt (Nat.le_of_lt_succ hlt)) h
        · rw [hact] at h; simp at h
        · exact hd.2 h
      · have h0 := hLim.2 _ _ hL
        have hex' := hex
        simp only [readyTasks] at hex'
        rw [hex', hact] at hle
        simp [typeCount] at hle
        omega
  obtain ⟨t, ht⟩ := List.exists_mem_of_ne_nil _ hpend
  exact claim (t + 1) t (Nat.lt_succ_self t) ht

/-- process runners: no idle worker slot while a future is queued -/
def NoIdle (cfg : Config) (rs : RS) : Prop := rs.queued = [] ∨ rs.running.length = cfg.maxWorkers

theorem submitAll_noIdle (cfg : Config) (p : Problem) (hb : cfg.backend ≠ .serial) :
    ∀ (l : List Tid) (rs : RS), WorkersOK cfg rs → NoIdle cfg rs → NoIdle cfg (submitAll cfg p l rs) :=
  fun l rs hw hn => (submitAll_ind (fun rs => WorkersOK cfg rs ∧ NoIdle cfg rs)
    (fun _ t _ _ h => ⟨submitTask_workers cfg p _ t h.1, by
      simp only [submitTask, hb, if_false]; exact startProcesses_no_idle cfg _ h.1⟩)
    (fun _ h => h) l rs ⟨hw, hn⟩).2

/-- every `_start_processes` fills the free slots, and nothing else touches the queues -/
theorem noIdle_stepInv (cfg : Config) (p : Problem) (req : List Tid) (hb : cfg.backend ≠ .serial) :
    StepInv cfg p req (fun rs => WorkersOK cfg rs ∧ NoIdle cfg rs) where
  submit := fun rs h => ⟨submitAll_workers cfg p _ rs h.1, submitAll_noIdle cfg p hb _ rs h.1 h.2⟩
  idle := fun hs => absurd hs hb
  serial := fun hs => absurd hs hb
  proc := fun _ c rs h => ⟨startProcesses_workers cfg _ (procPre_workers cfg p c rs h.1),
    startProcesses_no_idle cfg _ (procPre_workers cfg p c rs h.1)⟩
  yield := fun rs t o h => by
    unfold WorkersOK NoIdle; rw [processYield_running, processYield_queued]; exact h

/-- process runners: a tracked future means a running worker -/
theorem futs_running (hLim : LimitsPos cfg p) {rs : RS}
    (he : Exec cfg P [] rs) (hn : NoIdle cfg rs) (hf : rs.futs ≠ []) : rs.running ≠ [] := by
  intro hr
  have hperm := he.perm
  simp only [List.append_nil, hr] at hperm
  rcases hn with hq | hl
  · rw [hq] at hperm
    simp only [List.map_nil] at hperm
    exact hf hperm.symm.eq_nil
  · rw [hr] at hl
    have := hLim.1
    simp only [List.length_nil] at hl
    omega

theorem processYield_yielded (cfg : Config) (req : List Tid) (rs : RS) (t : Tid) (o : Outcome) :
    yielded (processYield cfg req rs t o) = yielded rs ++ [t] := by
  obtain ⟨tail, htr, htail⟩ := processYield_trace cfg req rs t o
  rw [yielded, htr, List.append_cons, yieldedOf_append_quiet _ _ (quiet_removes tail htail)]
  simp [yieldedOf, evYield, yielded]

theorem processYields_yielded_le (cfg : Config) (req : List Tid) (ys : List (Tid × Outcome)) (rs : RS) :
    (yielded rs).length ≤ (yielded (processYields cfg req ys rs)).length :=
  processYields_const (fun rs' => (yielded rs).length ≤ (yielded rs').length)
    (fun rs' t o h => by
      rw [processYield_yielded]
      show _ ≤ (yielded rs' ++ [t]).length
      rw [List.length_append]; omega) ys rs (Nat.le_refl _)

theorem processYields_yielded_lt (cfg : Config) (req : List Tid) (ys : List (Tid × Outcome)) (rs : RS)
    (hys : ys ≠ []) (hrun : rs.status = .running) :
    (yielded rs).length < (yielded (processYields cfg req ys rs)).length := by
  cases ys with
  | nil => exact absurd rfl hys
  | cons y rest =>
    obtain ⟨t, o⟩ := y
    simp only [processYields, hrun]
    refine Nat.lt_of_lt_of_le ?_ (processYields_yielded_le cfg req rest _)
    rw [processYield_yielded]
    show (yielded rs).length < (yielded rs ++ [t]).length
    simp

theorem submitTask_yielded (cfg : Config) (p : Problem) (rs : RS) (t : Tid) :
    yielded (submitTask cfg p rs t) = yielded rs := by
  simp only [submitTask]
  split
  · simp [yielded, yieldedOf, evYield]
  · rw [startProcesses_yielded]
    simp [yielded, yieldedOf, evYield]

theorem submitAll_yielded (cfg : Config) (p : Problem) (l : List Tid) (rs : RS) :
    yielded (submitAll cfg p l rs) = yielded rs :=
  submitAll_ind (fun rs' => yielded rs' = yielded rs)
    (fun _ t _ _ h => (submitTask_yielded cfg p _ t).trans h) (fun _ h => h) l rs rfl

theorem waitSerial_yielded (cfg : Config) (p : Problem) (req : List Tid) (rs : RS) (h : rs.queued ≠ []) :
    (yielded (waitSerial cfg p req rs)).length = (yielded rs).length + 1 := by
  cases hq : rs.queued with
  | nil => exact absurd hq h
  | cons j rest =>
    rw [waitSerial_cons cfg p req rs j rest hq, processYield_yielded]
    show (yieldedOf (serialPre p rs j rest).trace ++ [j.tid]).length = _
    rw [serialPre_trace, yieldedOf_append_quiet _ _ (serialEvs_quiet p rs j), List.length_append]
    rfl

/-- what the termination argument carries along a run -/
structure Live (cfg : Config) (p : Problem) (P : TS) (rs : RS) : Prop where
  reach : Reach cfg p P rs
  workers : WorkersOK cfg rs
  noIdle : cfg.backend ≠ .serial → NoIdle cfg rs

theorem iteration_live (req : List Tid) (hP : PI P) (c : Choice)
    {rs : RS} (h : Live cfg p P rs) (hrun : rs.status = .running) :
    Live cfg p P (iteration cfg p req c rs) where
  reach := iteration_reach req hP c h.reach hrun
  workers := (workers_stepInv cfg p req).iteration c rs h.workers
  noIdle := fun hb => ((noIdle_stepInv cfg p req hb).iteration c rs ⟨h.workers, h.noIdle hb⟩).2

theorem initRS_live (cfg : Config) (p : Problem) (store : Store) (fuel : Nat) :
    Live cfg p (plan cfg p store fuel) (initRS cfg p store fuel) where
  reach := initRS_reach cfg p store fuel
  workers := by simp [WorkersOK, initRS]
  noIdle := fun _ => Or.inl rfl

theorem runLoop_live (req : List Tid) (hP : PI P) :
    ∀ (sched : List Choice) (rs : RS), Live cfg p P rs → Live cfg p P (runLoop cfg p req sched rs) :=
  runLoop_ind _ (fun c _ hrun _ h => iteration_live req hP c h hrun)

/-- after the submit phase of a running loop-head state pending work means a tracked future, and
    for process runners a tracked future means a running worker -/
theorem submit_inflight (hP : PI P) (hCl : PlanClosed P)
    (hLt : ∀ t d, d ∈ P.ddeps t → d < t) (hLim : LimitsPos cfg p) {rs : RS} (h : Live cfg p P rs)
    (hrun : rs.status = .running) :
    ((submitAll cfg p (readyTasks p rs.ts) rs).ts.pending ≠ [] →
      (submitAll cfg p (readyTasks p rs.ts) rs).futs ≠ []) ∧
    (cfg.backend ≠ .serial → (submitAll cfg p (readyTasks p rs.ts) rs).futs ≠ [] →
      (submitAll cfg p (readyTasks p rs.ts) rs).running ≠ []) := by
  obtain ⟨hc, he, _⟩ := submitPhase_reach hP h.reach hrun
  exact ⟨pending_has_future hCl hLt hLim hc (submit_exhausts cfg p rs h.reach.1.ts.ndP),
    fun hb hf => futs_running hLim he (submitAll_noIdle cfg p hb _ rs h.workers (h.noIdle hb)) hf⟩

/-- with work left (`loopCond`) something is in flight after the submit phase -/
theorem submit_then_inflight (hP : PI P) (hCl : PlanClosed P)
    (hLt : ∀ t d, d ∈ P.ddeps t → d < t) (hLim : LimitsPos cfg p) {rs : RS} (h : Live cfg p P rs)
    (hrun : rs.status = .running) (hlc : loopCond rs = true) :
    (submitAll cfg p (readyTasks p rs.ts) rs).futs ≠ [] ∧
    (cfg.backend ≠ .serial → (submitAll cfg p (readyTasks p rs.ts) rs).running ≠ []) := by
  obtain ⟨hc, _, _⟩ := submitPhase_reach hP h.reach hrun
  obtain ⟨h1, h2⟩ := submit_inflight hP hCl hLt hLim h hrun
  have hcr := h.reach.1
  have hfuts : (submitAll cfg p (readyTasks p rs.ts) rs).futs ≠ [] := by
    intro hnil
    -- a task that is unfinished before the submit phase is pending or active after it
    obtain ⟨x, hx⟩ : ∃ x, x ∈ rs.ts.pending ∨ x ∈ rs.ts.active := by
      simp only [loopCond, Bool.or_eq_true, Bool.not_eq_eq_eq_not, Bool.not_true,
        List.isEmpty_eq_false_iff] at hlc
      rcases hlc with h | h
      · obtain ⟨x, hx⟩ := List.exists_mem_of_ne_nil _ h; exact ⟨x, Or.inl hx⟩
      · obtain ⟨x, hx⟩ := List.exists_mem_of_ne_nil _ h; exact ⟨x, Or.inr ((hcr.futsAct x).mp hx)⟩
    rcases (hc.ts.cover x).mp ((hcr.ts.cover x).mpr (hx.imp id Or.inl)) with h | h | h
    · exact h1 (List.ne_nil_of_mem h) hnil
    · exact List.ne_nil_of_mem ((hc.futsAct x).mpr h) hnil
    · rw [submitAll_yielded] at h
      exact hx.elim (hcr.ts.disjPY x) (hcr.ts.disjAY x) h
  exact ⟨hfuts, fun hb => h2 hb hfuts⟩

theorem enum_fin_ne_nil {α} (l : List α) (f : Nat → Bool) (hl : l ≠ []) (hf : f 0 = true) :
    ((enumFrom 0 l).filter (fun ij => f ij.1)).map (·.2) ≠ [] := by
  cases l with
  | nil => exact absurd rfl hl
  | cons a b => simp [enumFrom, hf]

/-- every fair iteration from a running state with work left delivers at least one outcome -/
theorem iteration_progress (req : List Tid) (hP : PI P)
    (hCl : PlanClosed P) (hLt : ∀ t d, d ∈ P.ddeps t → d < t) (hLim : LimitsPos cfg p) (c : Choice)
    (hfair : c.finish 0 = true) {rs : RS} (h : Live cfg p P rs)
    (hrun : rs.status = .running) (hlc : loopCond rs = true) :
    (yielded rs).length < (yielded (iteration cfg p req c rs)).length := by
  obtain ⟨hc, he, hst⟩ := submitPhase_reach hP h.reach hrun
  obtain ⟨hfuts, hrunning⟩ := submit_then_inflight hP hCl hLt hLim h hrun hlc
  have hy := submitAll_yielded cfg p (readyTasks p rs.ts) rs
  simp only [iteration, hst]
  split
  · next hb =>
    have hq : (submitAll cfg p (readyTasks p rs.ts) rs).queued ≠ [] := by
      intro hq
      have hperm := he.perm
      rw [hq, he.serialRun hb] at hperm
      exact hfuts hperm.symm.eq_nil
    rw [waitSerial_yielded cfg p req _ hq, hy]
    exact Nat.lt_succ_self _
  · next hb =>
    obtain ⟨rsB, ys, hwp, _, _, hyB, hstB, hperm⟩ := waitProcess_decomp req c hP hb hc he
    rw [hwp, ← hy, ← hyB]
    apply processYields_yielded_lt
    · intro hys
      rw [hys] at hperm
      have := hperm.symm.eq_nil
      simp only [List.map_eq_nil_iff] at this
      exact enum_fin_ne_nil _ c.finish (hrunning hb) hfair this
    · rw [hstB]; exact hst

/-- C11: with enough fair choices the loop ends -/
theorem runLoop_terminates (req : List Tid) (hP : PI P)
    (hCl : PlanClosed P) (hLt : ∀ t d, d ∈ P.ddeps t → d < t) (hLim : LimitsPos cfg p) :
    ∀ (sched : List Choice) (rs : RS), Fair sched → Live cfg p P rs →
      P.pending.length < sched.length + (yielded rs).length →
      (runLoop cfg p req sched rs).status ≠ .running ∨ loopCond (runLoop cfg p req sched rs) = false := by
  intro sched
  induction sched with
  | nil =>
    intro rs _ h hlen
    exfalso
    have hsub : ∀ a ∈ yielded rs, a ∈ P.pending :=
      fun a ha => (h.reach.1.ts.cover a).mpr (Or.inr (Or.inr ha))
    have := h.reach.1.ts.ndY.length_le_of_subset hsub
    simp only [List.length_nil, Nat.zero_add] at hlen
    omega
  | cons c cs ih =>
    intro rs hfair h hlen
    simp only [runLoop]
    split
    · next hrun =>
      split
      · next hlc =>
        apply ih _ (fun c' hc' => hfair c' (List.mem_cons_of_mem _ hc')) (iteration_live req hP c h hrun)
        have := iteration_progress req hP hCl hLt hLim c (hfair c List.mem_cons_self) h hrun hlc
        simp only [List.length_cons] at hlen
        omega
      · next hlc => right; simpa using hlc
    · next hnr => left; intro h'; exact hnr h'

end Lt
