import LabtechModel.Model.Params
/-!
# `json.dumps` is injective, part 1: number tokens and the other atoms

* `isDelim` / `okFollow`: the characters that may follow a complete value inside a document
  (`,` `]` `}`), and `delimFree_split`: two delimiter-free tokens followed by delimiters (or by
  nothing) that spell the same text are the same token.
* `toString (i : Int)`: non-empty, only `-` and decimal digits, and read back by `intOfToken`
  (`intToken_chars`, `intToken_ne_nil`, `intOfToken_toString`; from core's `Nat.toDigits` lemmas).
* `wfFloatTok`: a decidable grammar for the token `json.dumps` prints for a Python float
  (`float.__repr__`, `NaN`, `Infinity`, `-Infinity`):

      token ::= '-'? body
      body  ::= "NaN" | "Infinity" | digit+ '.' digit+ exp? | digit+ exp
      exp   ::= 'e' ('+' | '-') digit+

  so a token is never an integer literal (at least one of `.`, `e`, `N`, `I` occurs), it is not
  empty, and it uses only the characters `0-9 + - . e I N a n f i t y`
  (`wfFloatTok_chars`, `wfFloatTok_ne_nil`, `wfFloatTok_not_int`).
-/
namespace Lt.Params

/-- the characters that can follow a complete value inside a `json.dumps` document -/
def isDelim (c : Char) : Bool := c == ',' || c == ']' || c == '}'

/-- a rest-of-document that may follow a complete value: nothing, or a delimiter first -/
def okFollow : List Char → Bool
  | [] => true
  | c :: _ => isDelim c

theorem delimFree_split : ∀ (x y r r' : List Char),
    (∀ c ∈ x, isDelim c = false) → (∀ c ∈ y, isDelim c = false) →
    okFollow r = true → okFollow r' = true → x ++ r = y ++ r' → x = y ∧ r = r'
  | [], [] => fun _ _ _ _ _ _ h => ⟨rfl, h⟩
  | [], d :: y => fun r r' _ hy hr _ h => by
    rw [show r = d :: (y ++ r') from h, okFollow, hy d List.mem_cons_self] at hr
    cases hr
  | c :: x, [] => fun r r' hx _ _ hr' h => by
    rw [show r' = c :: (x ++ r) from h.symm, okFollow, hx c List.mem_cons_self] at hr'
    cases hr'
  | c :: x, d :: y => fun r r' hx hy hr hr' h => by
    obtain ⟨hcd, h⟩ := List.cons.inj h
    have ih := delimFree_split x y r r' (fun c hc => hx c (List.mem_cons_of_mem _ hc))
      (fun c hc => hy c (List.mem_cons_of_mem _ hc)) hr hr' h
    exact ⟨by rw [hcd, ih.1], ih.2⟩

/-- the characters of an integer literal -/
def intChar (c : Char) : Bool := c.isDigit || c == '-'

theorem intToken_toList (i : Int) :
    (toString i).toList = if 0 ≤ i then Nat.toDigits 10 i.toNat else '-' :: Nat.toDigits 10 (-i).toNat := by
  rw [Int.toString_eq_repr, Int.repr_eq_if]
  split <;> simp

theorem intToken_ne_nil (i : Int) : (toString i).toList ≠ [] := by
  rw [intToken_toList]
  split <;> simp

theorem intToken_chars (i : Int) : ∀ c ∈ (toString i).toList, intChar c = true := by
  intro c hc
  rw [intToken_toList] at hc
  split at hc
  · simp [intChar, Nat.isDigit_of_mem_toDigits (by decide) (by decide) hc]
  · rcases List.mem_cons.mp hc with h | h
    · subst h; decide
    · simp [intChar, Nat.isDigit_of_mem_toDigits (by decide) (by decide) h]

/-- reads an integer literal back -/
def intOfToken (l : List Char) : Int :=
  if l.head? = some '-' then -(Nat.ofDigitChars 10 l.tail 0 : Int) else Nat.ofDigitChars 10 l 0

theorem intOfToken_toString (i : Int) : intOfToken (toString i).toList = i := by
  rw [intToken_toList, intOfToken]
  split
  · have hd : (Nat.toDigits 10 i.toNat).head? ≠ some '-' := fun h => by
      simpa using Nat.isDigit_of_mem_toDigits (by decide) (by decide) (List.mem_of_head? h)
    rw [if_neg hd, Nat.ofDigitChars_ten_toDigits]
    omega
  · rw [List.head?_cons, if_pos rfl, List.tail_cons, Nat.ofDigitChars_ten_toDigits]
    omega

/-- one or more digits, then the end -/
def wfExpDigits : List Char → Bool
  | [] => false
  | c :: r => c.isDigit && (r.isEmpty || wfExpDigits r)

/-- after the `e`: a sign, then digits to the end -/
def wfExp : List Char → Bool
  | [] => false
  | c :: r => (c == '+' || c == '-') && wfExpDigits r

/-- inside the fraction, after at least one fraction digit -/
def wfFrac1 : List Char → Bool
  | [] => true
  | c :: r => if c = 'e' then wfExp r else c.isDigit && wfFrac1 r

/-- right after the `.` -/
def wfFrac : List Char → Bool
  | [] => false
  | c :: r => c.isDigit && wfFrac1 r

/-- inside the integer part, after at least one digit; ending here would be an integer literal -/
def wfInt1 : List Char → Bool
  | [] => false
  | c :: r => if c = '.' then wfFrac r else if c = 'e' then wfExp r else c.isDigit && wfInt1 r

/-- a float token without its sign -/
def wfFloatBody (l : List Char) : Bool :=
  l == ['N', 'a', 'N'] || l == ['I', 'n', 'f', 'i', 'n', 'i', 't', 'y'] ||
  match l with
  | [] => false
  | c :: r => c.isDigit && wfInt1 r

def wfFloatChars : List Char → Bool
  | '-' :: r => wfFloatBody r
  | l => wfFloatBody l

/-- the grammar of the tokens `json.dumps` prints for Python floats -/
def wfFloatTok (s : String) : Bool := wfFloatChars s.toList

/-- the alphabet of float tokens -/
def floatChar (c : Char) : Bool :=
  c.isDigit || c == '+' || c == '-' || c == '.' || c == 'e' || c == 'I' || c == 'N' || c == 'a' ||
  c == 'n' || c == 'f' || c == 'i' || c == 't' || c == 'y'

/-- a character that cannot occur in an integer literal -/
def floatMark (c : Char) : Bool := c == '.' || c == 'e' || c == 'N' || c == 'I'

theorem floatChar_of_digit {c : Char} (h : c.isDigit = true) : floatChar c = true := by
  simp [floatChar, h]

theorem wfExpDigits_chars : ∀ l, wfExpDigits l = true → ∀ c ∈ l, floatChar c = true
  | [], h => by simp [wfExpDigits] at h
  | d :: r, h => by
    simp only [wfExpDigits, Bool.and_eq_true, Bool.or_eq_true, List.isEmpty_iff] at h
    refine List.forall_mem_cons.mpr ⟨floatChar_of_digit h.1, ?_⟩
    rcases h.2 with rfl | h2
    · simp
    · exact wfExpDigits_chars r h2

theorem wfExp_chars : ∀ l, wfExp l = true → ∀ c ∈ l, floatChar c = true
  | [], h => by simp [wfExp] at h
  | d :: r, h => by
    simp only [wfExp, Bool.and_eq_true, Bool.or_eq_true, beq_iff_eq] at h
    refine List.forall_mem_cons.mpr ⟨?_, wfExpDigits_chars r h.2⟩
    rcases h.1 with rfl | rfl <;> decide

theorem wfFrac1_chars : ∀ l, wfFrac1 l = true → ∀ c ∈ l, floatChar c = true
  | [], _ => by simp
  | d :: r, h => by
    simp only [wfFrac1] at h
    split at h
    · next he => exact List.forall_mem_cons.mpr ⟨he ▸ by decide, wfExp_chars r h⟩
    · simp only [Bool.and_eq_true] at h
      exact List.forall_mem_cons.mpr ⟨floatChar_of_digit h.1, wfFrac1_chars r h.2⟩

theorem wfFrac_chars : ∀ l, wfFrac l = true → ∀ c ∈ l, floatChar c = true
  | [], h => by simp [wfFrac] at h
  | d :: r, h => by
    simp only [wfFrac, Bool.and_eq_true] at h
    exact List.forall_mem_cons.mpr ⟨floatChar_of_digit h.1, wfFrac1_chars r h.2⟩

theorem wfInt1_chars : ∀ l, wfInt1 l = true →
    (∀ c ∈ l, floatChar c = true) ∧ ∃ c ∈ l, floatMark c = true
  | [], h => by simp [wfInt1] at h
  | d :: r, h => by
    simp only [wfInt1] at h
    split at h
    · next he => exact ⟨List.forall_mem_cons.mpr ⟨he ▸ by decide, wfFrac_chars r h⟩, d, by simp, he ▸ by decide⟩
    · split at h
      · next he => exact ⟨List.forall_mem_cons.mpr ⟨he ▸ by decide, wfExp_chars r h⟩, d, by simp, he ▸ by decide⟩
      · simp only [Bool.and_eq_true] at h
        obtain ⟨ih1, m, hm, hm'⟩ := wfInt1_chars r h.2
        exact ⟨List.forall_mem_cons.mpr ⟨floatChar_of_digit h.1, ih1⟩, m, by simp [hm], hm'⟩

theorem wfFloatBody_chars (l : List Char) (h : wfFloatBody l = true) :
    l ≠ [] ∧ (∀ c ∈ l, floatChar c = true) ∧ ∃ c ∈ l, floatMark c = true := by
  simp only [wfFloatBody, Bool.or_eq_true, beq_iff_eq] at h
  rcases h with (rfl | rfl) | h
  · exact ⟨by simp, by decide, 'N', by simp, by decide⟩
  · exact ⟨by simp, by decide, 'I', by simp, by decide⟩
  · cases l with
    | nil => simp at h
    | cons d r =>
      simp only [Bool.and_eq_true] at h
      obtain ⟨ih1, m, hm, hm'⟩ := wfInt1_chars r h.2
      exact ⟨by simp, List.forall_mem_cons.mpr ⟨floatChar_of_digit h.1, ih1⟩, m, by simp [hm], hm'⟩

theorem wfFloatChars_chars (l : List Char) (h : wfFloatChars l = true) :
    l ≠ [] ∧ (∀ c ∈ l, floatChar c = true) ∧ ∃ c ∈ l, floatMark c = true := by
  unfold wfFloatChars at h
  split at h
  · next r =>
    obtain ⟨_, h2, m, hm, hm'⟩ := wfFloatBody_chars r h
    exact ⟨by simp, List.forall_mem_cons.mpr ⟨by decide, h2⟩, m, by simp [hm], hm'⟩
  · exact wfFloatBody_chars l h

theorem wfFloatTok_ne_nil (s : String) (h : wfFloatTok s = true) : s.toList ≠ [] :=
  (wfFloatChars_chars _ h).1

theorem wfFloatTok_chars (s : String) (h : wfFloatTok s = true) : ∀ c ∈ s.toList, floatChar c = true :=
  (wfFloatChars_chars _ h).2.1

theorem wfFloatTok_mark (s : String) (h : wfFloatTok s = true) : ∃ c ∈ s.toList, floatMark c = true :=
  (wfFloatChars_chars _ h).2.2

theorem floatMark_not_int (c : Char) (h : floatMark c = true) : intChar c = false := by
  simp only [floatMark, Bool.or_eq_true, beq_iff_eq] at h
  rcases h with ((h | h) | h) | h <;> subst h <;> decide

theorem wfFloatTok_not_int (s : String) (h : wfFloatTok s = true) (i : Int) : s.toList ≠ (toString i).toList := by
  intro e
  obtain ⟨c, hc, hm⟩ := wfFloatTok_mark s h
  have := intToken_chars i c (e ▸ hc)
  rw [floatMark_not_int c hm] at this
  cases this

theorem floatChar_not_delim (c : Char) (h : floatChar c = true) : isDelim c = false := by
  cases hd : isDelim c with
  | false => rfl
  | true =>
    simp only [isDelim, Bool.or_eq_true, beq_iff_eq] at hd
    rcases hd with (e | e) | e <;> subst e <;> revert h <;> decide

theorem intChar_not_delim (c : Char) (h : intChar c = true) : isDelim c = false := by
  cases hd : isDelim c with
  | false => rfl
  | true =>
    simp only [isDelim, Bool.or_eq_true, beq_iff_eq] at hd
    rcases hd with (e | e) | e <;> subst e <;> revert h <;> decide

/-! non-vacuity of the grammar: tokens `float.__repr__` produces are accepted, integer literals,
the empty token and tokens with a delimiter are not -/
example : wfFloatTok "1.5" = true := by decide +kernel
example : wfFloatTok "-0.0" = true := by decide +kernel
example : wfFloatTok "1e+16" = true := by decide +kernel
example : wfFloatTok "1.7976931348623157e+308" = true := by decide +kernel
example : wfFloatTok "NaN" = true := by decide +kernel
example : wfFloatTok "Infinity" = true := by decide +kernel
example : wfFloatTok "-Infinity" = true := by decide +kernel
example : wfFloatTok "5e-324" = true := by decide +kernel
example : wfFloatTok "2.5e-07" = true := by decide +kernel
/-- the harness's edge tokens (`EDGE_FLOATS` in `harness/paramgen.py`) -/
example : ["0.0", "-0.0", "1.0", "1e-320", "Infinity", "-Infinity", "0.1", "1e+22", "-2.5",
    "1.7976931348623157e+308", "5e-324"].all wfFloatTok = true := by decide +kernel
example : wfFloatTok "15" = false := by decide +kernel
example : wfFloatTok "-15" = false := by decide +kernel
example : wfFloatTok "" = false := by decide +kernel
example : wfFloatTok "-" = false := by decide +kernel
example : wfFloatTok "1,2" = false := by decide +kernel
example : wfFloatTok "1, 2" = false := by decide +kernel
example : wfFloatTok "1." = false := by decide +kernel
example : wfFloatTok "1.5e" = false := by decide +kernel
example : wfFloatTok "1.5]" = false := by decide +kernel
example : wfFloatTok "null" = false := by decide +kernel

end Lt.Params
