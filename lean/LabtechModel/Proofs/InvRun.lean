import LabtechModel.Proofs.InvTS
import LabtechModel.Proofs.InvList
import LabtechModel.Proofs.Submit
/-!
# The invariant of the coordinator loop: its two parts, kept by `_start_processes` and the submit phase

`Core p P rs`: holds in every reachable state (any status): scheduler dictionaries = plan minus
yielded tasks, futures = active tasks, trace history facts, never `KeyError`.
`Exec cfg P extra rs`: holds in every reachable state with status `running`: executor queues vs
`future_to_task` (up to `extra` = futures whose outcome is being delivered in the current wait),
retained results, worker snapshots.
-/
namespace Lt
variable {cfg : Config} {p : Problem} {P : TS}

/-- the results visible to a worker of `t` hold, for every direct dependency, exactly the value
    it was yielded with: a dependency that failed or died has no entry -/
def SnapOK (P : TS) (tr : List Ev) (snap : List (Tid × Val)) (t : Tid) : Prop :=
  ∀ d ∈ P.ddeps t, ∀ v, (lookup d snap = some v ↔ Ev.yield d (.ok v) ∈ tr)

/-- what must hold of an event relative to the trace before it -/
def EvOK (p : Problem) (P : TS) (pre : List Ev) : Ev → Prop
  | .submit t _ => ∀ d ∈ P.ddeps t, d ∈ yieldedOf pre
  | .start t => ∀ d ∈ P.ddeps t, d ∈ yieldedOf pre
  | .exec t seen => (∀ d ∈ P.ddeps t, d ∈ yieldedOf pre) ∧
      ∃ snap, seen = reads p (repr0 P t) snap ∧ SnapOK P pre snap t
  | _ => True

structure Core (p : Problem) (P : TS) (rs : RS) : Prop where
  ts : TSInv P (yielded rs) rs.ts
  futsAct : ∀ t, t ∈ rs.futs ↔ t ∈ rs.ts.active
  ndF : rs.futs.Nodup
  hist : Hist (EvOK p P) rs.trace
  subNd : (submittedOf rs.trace).Nodup
  subAct : ∀ t, t ∈ submittedOf rs.trace ↔ (t ∈ rs.ts.active ∨ t ∈ yielded rs)
  noKey : rs.status ≠ .raised .keyError
  noRet : ∀ r, rs.status ≠ .returned r
  ranNd : (ranOf rs.trace).Nodup

structure Exec (cfg : Config) (P : TS) (extra : List Tid) (rs : RS) : Prop where
  perm : ((rs.queued ++ rs.running).map Job.tid ++ extra).Perm rs.futs
  res : ∀ d v, (d, v) ∈ rs.results ↔ (Ev.yield d (.ok v) ∈ rs.trace ∧ rs.ts.pendDependents d ≠ [])
  resNd : (rs.results.map Prod.fst).Nodup
  snapOK : ∀ j ∈ rs.queued ++ rs.running, ∀ snap, j.snap = some snap → SnapOK P rs.trace snap j.tid
  runSnap : ∀ j ∈ rs.running, j.snap ≠ none
  spawnSnap : cfg.backend = .spawn → ∀ j ∈ rs.queued, j.snap ≠ none
  serialRun : cfg.backend = .serial → rs.running = []
  ranSub : ∀ t ∈ ranOf rs.trace, t ∈ yielded rs ∨ t ∈ extra

theorem SnapOK_ny (P : TS) (tr l : List Ev) (h : ∀ e ∈ l, evYield e = none) (snap : List (Tid × Val)) (t : Tid) :
    SnapOK P (tr ++ l) snap t ↔ SnapOK P tr snap t := by
  simp only [SnapOK, mem_yield_append_ny tr l h]

theorem SnapOK_quiet (P : TS) (tr l : List Ev) (hq : Quiet l) (snap : List (Tid × Val)) (t : Tid) :
    SnapOK P (tr ++ l) snap t ↔ SnapOK P tr snap t :=
  SnapOK_ny P tr l (fun e he => (hq e he).1) snap t

/-- a state that differs only by a quiet trace extension (and store/marked/taskResults) -/
theorem Core.quiet {rs rs' : RS} (h : Core p P rs) (l : List Ev)
    (hts : rs'.ts = rs.ts) (hf : rs'.futs = rs.futs) (hst : rs'.status = rs.status)
    (htr : rs'.trace = rs.trace ++ l) (hq : Quiet l) (hh : Hist (EvOK p P) rs'.trace)
    (hran : (ranOf rs'.trace).Nodup) : Core p P rs' where
  ts := by simp only [yielded, htr, yieldedOf_append_quiet _ _ hq, hts]; exact h.ts
  futsAct := by rw [hf, hts]; exact h.futsAct
  ndF := by rw [hf]; exact h.ndF
  hist := hh
  subNd := by rw [htr, submittedOf_append_quiet _ _ hq]; exact h.subNd
  subAct := by
    simp only [yielded, htr, yieldedOf_append_quiet _ _ hq, submittedOf_append_quiet _ _ hq, hts]
    exact h.subAct
  noKey := by rw [hst]; exact h.noKey
  noRet := by rw [hst]; exact h.noRet
  ranNd := hran

theorem EvOK_quiet {tr l : List Ev} {e : Ev} (hq : Quiet l) (h : EvOK p P tr e) :
    EvOK p P (tr ++ l) e := by
  cases e <;> simp only [EvOK, yieldedOf_append_quiet _ _ hq, SnapOK_quiet _ _ _ hq] at h ⊢ <;> exact h

theorem Hist.append_quiet {tr l : List Ev} (h : Hist (EvOK p P) tr) (hq : Quiet l)
    (hl : ∀ e ∈ l, EvOK p P tr e) : Hist (EvOK p P) (tr ++ l) :=
  h.append_of_mem (fun e he _ hpre => EvOK_quiet (hq.sub hpre) (hl e he))

theorem Exec.perm_extra {extra extra' : List Tid} {rs : RS}
    (h : Exec cfg P extra rs) (hp : extra.Perm extra') : Exec cfg P extra' rs where
  perm := ((hp.append_left _).symm).trans h.perm
  res := h.res
  resNd := h.resNd
  snapOK := h.snapOK
  runSnap := h.runSnap
  spawnSnap := h.spawnSnap
  serialRun := h.serialRun
  ranSub := fun t ht => (h.ranSub t ht).imp id (fun hx => hp.mem_iff.mp hx)

/-- every job known to the executor belongs to a tracked future, hence to an active task -/
theorem Exec.job_active {extra : List Tid} {rs : RS}
    (hc : Core p P rs) (h : Exec cfg P extra rs) (j : Job) (hj : j ∈ rs.queued ++ rs.running) :
    j.tid ∈ rs.ts.active := by
  rw [← hc.futsAct, ← h.perm.mem_iff]
  exact List.mem_append_left _ (List.mem_map.mpr ⟨j, hj, rfl⟩)

/-- the retained results are a good snapshot for every task that has not been yielded -/
theorem results_snapOK {extra : List Tid} {rs : RS} (hP : PI P)
    (hc : Core p P rs) (h : Exec cfg P extra rs) (t : Tid) (ht : t ∉ yielded rs) :
    SnapOK P rs.trace rs.results t := by
  intro d hd v
  constructor
  · intro hl
    exact ((h.res d v).mp (lookup_mem d v _ hl)).1
  intro hv
  apply lookup_of_mem_nodup _ _ _ h.resNd
  rw [h.res]
  refine ⟨hv, ?_⟩
  intro hnil
  have : t ∈ rs.ts.pendDependents d := by
    rw [hc.ts.mem_pdt]
    exact ⟨(hP.dual d t).mpr hd, ht⟩
  rw [hnil] at this
  simp at this

def snapF (cfg : Config) (rs : RS) (j : Job) : Job :=
  if cfg.backend = .fork then { j with snap := some rs.results } else j

theorem snapF_tid (cfg : Config) (rs : RS) (j : Job) : (snapF cfg rs j).tid = j.tid := by
  simp only [snapF]; split <;> rfl

theorem startProcesses_shape (cfg : Config) (rs : RS) : ∃ go stay, go ++ stay = rs.queued ∧
    startProcesses cfg rs =
      { rs with queued := stay, running := rs.running ++ go.map (snapF cfg rs),
                trace := rs.trace ++ (go.map (snapF cfg rs)).map (fun j => Ev.start j.tid) } :=
  ⟨(takeN (cfg.maxWorkers - rs.running.length) rs.queued).1,
   (takeN (cfg.maxWorkers - rs.running.length) rs.queued).2, takeN_append _ _, rfl⟩

theorem quiet_starts (l : List Job) : Quiet (l.map (fun j => Ev.start j.tid)) := by
  intro e he
  obtain ⟨j, _, rfl⟩ := List.mem_map.mp he
  exact ⟨rfl, rfl⟩

theorem noran_starts (l : List Job) : ∀ e ∈ l.map (fun j => Ev.start j.tid), evRan e = none := by
  intro e he
  obtain ⟨j, _, rfl⟩ := List.mem_map.mp he
  rfl

theorem startProcesses_inv {extra : List Tid} {rs : RS}
    (hP : PI P) (hb : cfg.backend ≠ .serial) (hc : Core p P rs) (he : Exec cfg P extra rs) :
    Core p P (startProcesses cfg rs) ∧ Exec cfg P extra (startProcesses cfg rs) := by
  obtain ⟨go, stay, happ, hsp⟩ := startProcesses_shape cfg rs
  rw [hsp]
  have hq := quiet_starts (go.map (snapF cfg rs))
  have hgo : ∀ j ∈ go, j ∈ rs.queued ++ rs.running := by
    intro j hj; rw [← happ]; simp [hj]
  have hstay : ∀ j ∈ stay, j ∈ rs.queued := by
    intro j hj; rw [← happ]; simp [hj]
  have hnr := noran_starts (go.map (snapF cfg rs))
  constructor
  · refine Core.quiet hc _ ?_ ?_ ?_ ?_ hq ?_ ?_ <;> try rfl
    · apply hc.hist.append_quiet hq
      intro e hemem
      obtain ⟨j', hj', rfl⟩ := List.mem_map.mp hemem
      obtain ⟨j, hj, rfl⟩ := List.mem_map.mp hj'
      simp only [EvOK, snapF_tid]
      exact hc.ts.actDeps _ (he.job_active hc j (hgo j hj))
    · show (ranOf (rs.trace ++ _)).Nodup
      rw [ranOf_append_noran _ _ hnr]; exact hc.ranNd
  · exact {
      perm := by
        have hsn : (go.map (snapF cfg rs)).map Job.tid = go.map Job.tid := by
          rw [List.map_map]; exact List.map_congr_left (fun j _ => snapF_tid cfg rs j)
        have h3 := he.perm
        rw [← happ] at h3
        show ((stay ++ (rs.running ++ go.map (snapF cfg rs))).map Job.tid ++ extra).Perm rs.futs
        refine (List.Perm.append_right extra ?_).trans h3
        simp only [List.map_append, hsn]
        rw [← List.append_assoc, List.append_assoc (go.map Job.tid)]
        exact List.perm_append_comm
      res := fun d v => (he.res d v).trans (and_congr_left' (mem_yield_append_quiet _ _ hq d _).symm)
      resNd := he.resNd
      snapOK := by
        intro j' hj' snap hs
        show SnapOK P (rs.trace ++ _) snap j'.tid
        rw [SnapOK_quiet _ _ _ hq]
        have hj'' : j' ∈ stay ∨ j' ∈ rs.running ∨ j' ∈ go.map (snapF cfg rs) := by
          simpa [List.mem_append] using hj'
        rcases hj'' with h1 | h1 | h1
        · exact he.snapOK j' (List.mem_append_left _ (hstay j' h1)) snap hs
        · exact he.snapOK j' (List.mem_append_right _ h1) snap hs
        · obtain ⟨j, hj, rfl⟩ := List.mem_map.mp h1
          rw [snapF_tid]
          simp only [snapF] at hs
          split at hs
          · simp only [Option.some.injEq] at hs
            subst hs
            exact results_snapOK hP hc he j.tid (hc.ts.disjAY _ (he.job_active hc j (hgo j hj)))
          · exact he.snapOK j (hgo j hj) snap hs
      runSnap := by
        intro j' hj'
        have hj'' : j' ∈ rs.running ∨ j' ∈ go.map (snapF cfg rs) := by
          simpa [List.mem_append] using hj'
        rcases hj'' with h1 | h1
        · exact he.runSnap j' h1
        · obtain ⟨j, hj, rfl⟩ := List.mem_map.mp h1
          simp only [snapF]
          cases hbk : cfg.backend with
          | serial => exact absurd hbk hb
          | fork => simp
          | spawn =>
            simp only [reduceCtorEq, if_false]
            exact he.spawnSnap hbk j (by rw [← happ]; simp [hj])
      spawnSnap := by
        intro hs j hj
        exact he.spawnSnap hs j (hstay j hj)
      serialRun := fun h => absurd h hb
      ranSub := fun t ht => by
        rw [yielded, yieldedOf_append_quiet _ _ hq]
        exact he.ranSub t (ranOf_append_noran _ _ hnr ▸ ht) }

/-- the state after `start_task t` and the bookkeeping part of `submit_task t` -/
abbrev submitState (rs : RS) (t : Tid) (j : Job) (uc : Bool) : RS :=
  { rs with ts := startedTS rs.ts t, queued := rs.queued ++ [j], futs := rs.futs ++ [t],
            trace := rs.trace ++ [Ev.submit t uc] }

theorem submitCore {rs : RS} {t : Tid} (hc : Core p P rs)
    (he : Exec cfg P [] rs) (ht : t ∈ rs.ts.pending) (hd : rs.ts.pendDeps t = [])
    (j : Job) (hjt : j.tid = t) (hjs : ∀ snap, j.snap = some snap → SnapOK P rs.trace snap t)
    (hjsp : cfg.backend = .spawn → j.snap ≠ none) (uc : Bool) :
    Core p P (submitState rs t j uc) ∧ Exec cfg P [] (submitState rs t j uc) := by
  have hY : yielded (submitState rs t j uc) = yielded rs := by simp [yielded, yieldedOf, evYield]
  have hS : submittedOf (submitState rs t j uc).trace = submittedOf rs.trace ++ [t] := by
    simp [submittedOf, evSubmit]
  have hR : ranOf (submitState rs t j uc).trace = ranOf rs.trace := by simp [ranOf, evRan]
  have hny : ∀ e ∈ [Ev.submit t uc], evYield e = none := by
    intro e he; simp at he; subst he; rfl
  have htA : t ∉ rs.ts.active := hc.ts.disjPA t ht
  have htY : t ∉ yielded rs := hc.ts.disjPY t ht
  have hdeps := (hc.ts.pd_nil_iff t).mp hd
  constructor
  · exact {
      ts := by rw [hY]; exact startTask_TSInv P _ rs.ts t hc.ts ht hdeps
      futsAct := fun x => by
        show x ∈ rs.futs ++ [t] ↔ x ∈ rs.ts.active ++ [t]
        simp only [List.mem_append, hc.futsAct x]
      ndF := nodup_snoc hc.ndF (fun h => htA ((hc.futsAct t).mp h))
      hist := hc.hist.snoc hdeps
      subNd := by
        rw [hS]
        exact nodup_snoc hc.subNd (fun h => ((hc.subAct t).mp h).elim htA htY)
      subAct := fun x => by
        rw [hS, hY, List.mem_append, hc.subAct x]
        show _ ↔ (x ∈ rs.ts.active ++ [t] ∨ _)
        rw [List.mem_append]
        exact or_right_comm
      noKey := hc.noKey
      noRet := hc.noRet
      ranNd := by rw [hR]; exact hc.ranNd }
  · exact {
      perm := by
        show (((rs.queued ++ [j]) ++ rs.running).map Job.tid ++ []).Perm (rs.futs ++ [t])
        have h1 := he.perm
        simp only [List.append_nil, List.map_append, List.map_cons, hjt,
          List.append_assoc, List.singleton_append] at h1 ⊢
        exact (List.perm_middle.trans (h1.cons t)).trans (List.perm_append_comm (l₁ := [t]))
      res := fun d v => (he.res d v).trans (and_congr_left' (mem_yield_append_ny _ _ hny d _).symm)
      resNd := he.resNd
      snapOK := by
        intro j' hj' snap hs
        refine (SnapOK_ny _ _ _ hny _ _).mpr ?_
        rcases List.mem_append.mp hj' with h | h
        · rcases List.mem_append.mp h with h | h
          · exact he.snapOK j' (List.mem_append_left _ h) snap hs
          · cases List.mem_singleton.mp h; rw [hjt]; exact hjs snap hs
        · exact he.snapOK j' (List.mem_append_right _ h) snap hs
      runSnap := he.runSnap
      spawnSnap := by
        intro hsp j' hj'
        rcases List.mem_append.mp hj' with h | h
        · exact he.spawnSnap hsp j' h
        · cases List.mem_singleton.mp h; exact hjsp hsp
      serialRun := he.serialRun
      ranSub := fun x hx => by rw [hY]; exact he.ranSub x (hR ▸ hx) }

theorem submitStep_inv {rs : RS} {t : Tid} (hP : PI P)
    (hc : Core p P rs) (he : Exec cfg P [] rs) (ht : t ∈ rs.ts.pending) (hd : rs.ts.pendDeps t = []) :
    Core p P (submitTask cfg p { rs with ts := startedTS rs.ts t } t) ∧
    Exec cfg P [] (submitTask cfg p { rs with ts := startedTS rs.ts t } t) := by
  have htY : t ∉ yielded rs := hc.ts.disjPY t ht
  have hsnap := results_snapOK hP hc he t htY
  have key := submitCore hc he ht hd
    (newJob cfg p rs t) rfl
    (by
      intro snap hs
      simp only [newJob] at hs
      split at hs
      · simp only [Option.some.injEq] at hs
        subst hs
        intro d hd v
        have := lookup_filter_key d (fun k => decide (k ∈ rs.ts.ddeps t))
          (by rw [hc.ts.ddeps]; simpa using hd) rs.results
        rw [this]
        exact hsnap d hd v
      · cases hs)
    (by intro hsp; simp [hsp])
    (useCache cfg p rs.store t)
  simp only [submitTask]
  split
  · exact key
  · next hb => exact startProcesses_inv hP hb key.1 key.2

/-- the submit phase over distinct ready tasks keeps the invariant, together with any `I` that each
    `start_task` + `submit_task` of a ready task keeps under it -/
theorem submitAll_inv (hP : PI P) (I : RS → Prop)
    (hstep : ∀ rs t, Core p P rs → Exec cfg P [] rs → t ∈ rs.ts.pending → I rs →
      I (submitTask cfg p { rs with ts := startedTS rs.ts t } t)) :
    ∀ (l : List Tid) (rs : RS), l.Nodup → (∀ t ∈ l, t ∈ rs.ts.pending ∧ rs.ts.pendDeps t = []) →
      Core p P rs → Exec cfg P [] rs → I rs →
      Core p P (submitAll cfg p l rs) ∧ Exec cfg P [] (submitAll cfg p l rs) ∧ I (submitAll cfg p l rs) := by
  intro l
  induction l with
  | nil => intro rs _ _ hc he hI; exact ⟨hc, he, hI⟩
  | cons t ts ih =>
    intro rs hnd hmem hc he hI
    obtain ⟨ht, hd⟩ := hmem t List.mem_cons_self
    have hnd' := List.nodup_cons.mp hnd
    simp only [submitAll, startTask_eq rs.ts t ht]
    obtain ⟨hc', he'⟩ := submitStep_inv hP hc he ht hd
    apply ih _ hnd'.2 _ hc' he' (hstep rs t hc he ht hI)
    intro x hx
    rw [submitTask_ts]
    obtain ⟨hx1, hx2⟩ := hmem x (List.mem_cons_of_mem _ hx)
    refine ⟨?_, hx2⟩
    simp only [List.mem_filter, ne_eq, decide_eq_true_eq]
    exact ⟨hx1, fun hxt => hnd'.1 (hxt ▸ hx)⟩

end Lt
