import LabtechModel.Model.ClassRes
import LabtechModel.Model.Params
/-!
# Class resolution (`deserialize_class`, D26) and enum-member resolution (`deserialize_enum`, D27): lemmas

* `splitStr_joinStr`: splitting a joined component list gives the components back.
* `resolveAt_roundtrip`: the round trip under `NoShadow`.
* `resolveComps_old_or_shift`: `resolve` agrees with the split-at-the-last-dot rule `resolveOld` except where that one
  raises `ModuleNotFoundError` and `resolve` shifts a component; `resolveAt_error`: after a shift every failure is a
  `ModuleNotFoundError`.  Together: a conservative extension with the same errors (C09).
* `enumMember_join`, `namedParts_*`: a Flag name whose pieces each resolve comes back as the OR of the pieces; the pieces
  `serialize_enum` writes (C09.enum_roundtrip).
-/
namespace Lt.ClassRes

theorem splitOnC_ne_nil (c : Char) : ∀ l, splitOnC c l ≠ []
  | [] => by simp [splitOnC]
  | x :: xs => by
    simp only [splitOnC]
    split
    · simp
    · split <;> simp

theorem splitOnC_free (c : Char) : ∀ (p : List Char), (∀ x ∈ p, x ≠ c) → splitOnC c p = [p]
  | [], _ => rfl
  | x :: xs, h => by
    have hx : x ≠ c := h x (by simp)
    have := splitOnC_free c xs (fun y hy => h y (by simp [hy]))
    simp [splitOnC, this, hx]

theorem splitOnC_append (c : Char) (rest : List Char) :
    ∀ (p : List Char), (∀ x ∈ p, x ≠ c) → splitOnC c (p ++ c :: rest) = p :: splitOnC c rest
  | [], _ => by
    simp only [List.nil_append, splitOnC]
    cases h : splitOnC c rest with
    | nil => exact absurd h (splitOnC_ne_nil c rest)
    | cons a b => simp
  | x :: xs, h => by
    have hx : x ≠ c := h x (by simp)
    have := splitOnC_append c rest xs (fun y hy => h y (by simp [hy]))
    simp [splitOnC, this, hx]

theorem splitOnC_joinC (c : Char) : ∀ (ps : List (List Char)), ps ≠ [] → (∀ p ∈ ps, ∀ x ∈ p, x ≠ c) →
    splitOnC c (joinC c ps) = ps
  | [], h, _ => absurd rfl h
  | [p], _, h => by simpa [joinC] using splitOnC_free c p (h p (by simp))
  | p :: q :: rest, _, h => by
    simp only [joinC]
    rw [splitOnC_append c _ p (h p (by simp)), splitOnC_joinC c (q :: rest) (by simp) (fun r hr => h r (by simp [hr]))]

theorem freeOf_iff (c : Char) (s : String) : freeOf c s = true ↔ ∀ x ∈ s.toList, x ≠ c := by
  simp [freeOf]

theorem splitStr_joinStr (c : Char) (ps : List String) (hne : ps ≠ []) (h : ∀ p ∈ ps, freeOf c p = true) :
    splitStr c (joinStr c ps) = ps := by
  simp only [splitStr, joinStr, String.toList_ofList]
  rw [splitOnC_joinC c _ (by simpa using hne)]
  · simp [Function.comp_def, String.ofList_toList]
  · intro p hp
    obtain ⟨s, hs, rfl⟩ := List.mem_map.mp hp
    exact (freeOf_iff c s).mp (h s hs)

theorem joinC_append (c : Char) : ∀ (a b : List (List Char)), a ≠ [] → b ≠ [] →
    joinC c (a ++ b) = joinC c a ++ c :: joinC c b
  | [], _, h, _ => absurd rfl h
  | [p], b, _, hb => by
    cases b with
    | nil => exact absurd rfl hb
    | cons q rest => simp [joinC]
  | p :: q :: rest, b, _, hb => by
    have := joinC_append c (q :: rest) b (by simp) hb
    simp only [List.cons_append] at this ⊢
    simp [joinC, this]

/-- the class string is the one the serialisation model (`Params.ClassRef.ser`) writes for the dotted module and
qualified name -/
theorem ser_eq_classRef_ser (m q : List String) (hm : m ≠ []) (hq : q ≠ []) :
    ser m q = (Lt.Params.ClassRef.mk (joinStr '.' m) (joinStr '.' q)).ser := by
  simp only [ser, Lt.Params.ClassRef.ser, joinStr, List.map_append]
  rw [joinC_append '.' _ _ (by simpa using hm) (by simpa using hq)]
  apply String.toList_injective
  simp [String.toList_append]

theorem importFrom_append (w : World) : ∀ (a done b : List String),
    importFrom w done (a ++ b) = match importFrom w done a with
      | .ok => importFrom w (done ++ a) b
      | e => e
  | [], done, b => by simp [importFrom]
  | x :: a, done, b => by
    simp only [List.cons_append, importFrom]
    split
    · split
      · rfl
      · rw [importFrom_append w a (done ++ [x]) b]
        simp
    · rfl

/-- every parent of `m` (and `m`) is a module, and none of them fails while it executes -/
def Importable (w : World) (m : List String) : Prop :=
  ∀ i, 0 < i → i ≤ m.length → w.modules.contains (m.take i) = true ∧ w.broken.contains (m.take i) = false

/-- a condition on all non-empty prefixes `pre ++ l.take i`: the first one, and those of the tail after `pre ++ [x]` -/
theorem prefixes_cons {P : List String → Prop} {pre : List String} {x : String} {rest : List String}
    (h : ∀ i, 0 < i → i ≤ (x :: rest).length → P (pre ++ (x :: rest).take i)) :
    P (pre ++ [x]) ∧ ∀ i, 0 < i → i ≤ rest.length → P ((pre ++ [x]) ++ rest.take i) :=
  ⟨by simpa using h 1 (by omega) (by simp), fun i _ hle => by simpa using h (i + 1) (by omega) (by simp; omega)⟩

theorem importFrom_ok (w : World) : ∀ (rest done : List String),
    (∀ i, 0 < i → i ≤ rest.length →
      w.modules.contains (done ++ rest.take i) = true ∧ w.broken.contains (done ++ rest.take i) = false) →
    importFrom w done rest = .ok
  | [], _, _ => rfl
  | x :: rest, done, h => by
    obtain ⟨h1, ht⟩ := prefixes_cons (P := fun p => w.modules.contains p = true ∧ w.broken.contains p = false) h
    simp only [importFrom, h1.1, h1.2, if_true]
    exact importFrom_ok w rest (done ++ [x]) ht

theorem importMod_ok (w : World) (m : List String) (h : Importable w m) : importMod w m = .ok :=
  importFrom_ok w m [] (by simpa [Importable] using h)

/-- the import stops at the first component that is no module -/
theorem importMod_notFound (w : World) (m : List String) (a : String) (t : List String) (hok : importMod w m = .ok)
    (h : w.modules.contains (m ++ [a]) = false) : importMod w (m ++ a :: t) = .notFound := by
  have h' : m ++ [a] ∉ w.modules := by simpa using h
  simp only [importMod] at hok ⊢
  rw [importFrom_append, hok]
  simp [importFrom, h']

/-- every non-empty prefix of `q` is an attribute chain of module `m`: `getattr` succeeds at every step -/
def HasAttrPath (w : World) (m q : List String) : Prop :=
  ∀ i, 0 < i → i ≤ q.length → (w.attrsOf m).contains (q.take i) = true

/-- no proper extension of the module path by a prefix of the qualified name is itself a module -/
def NoShadow (w : World) (m q : List String) : Prop :=
  ∀ i, 0 < i → i < q.length → w.modules.contains (m ++ q.take i) = false

/- On a concrete world the three conditions are finite checks.  The bound on `i` is put first so that core's
instance for bounded `∀` over `Nat` applies. -/
instance (w : World) (m : List String) : Decidable (Importable w m) :=
  decidable_of_iff (∀ i, i ≤ m.length → 0 < i →
      w.modules.contains (m.take i) = true ∧ w.broken.contains (m.take i) = false)
    ⟨fun h i hp hl => h i hl hp, fun h i hl hp => h i hp hl⟩

instance (w : World) (m q : List String) : Decidable (HasAttrPath w m q) :=
  decidable_of_iff (∀ i, i ≤ q.length → 0 < i → (w.attrsOf m).contains (q.take i) = true)
    ⟨fun h i hp hl => h i hl hp, fun h i hl hp => h i hp hl⟩

instance (w : World) (m q : List String) : Decidable (NoShadow w m q) :=
  decidable_of_iff (∀ i, i < q.length → 0 < i → w.modules.contains (m ++ q.take i) = false)
    ⟨fun h i hp hl => h i hl hp, fun h i hl hp => h i hp hl⟩

theorem walkFrom_ok (w : World) (m : List String) : ∀ (rest ap : List String),
    (∀ i, 0 < i → i ≤ rest.length → (w.attrsOf m).contains (ap ++ rest.take i) = true) →
    walkFrom w m ap rest = some (m, ap ++ rest)
  | [], ap, _ => by simp [walkFrom]
  | x :: rest, ap, h => by
    obtain ⟨h1, ht⟩ := prefixes_cons (P := fun p => (w.attrsOf m).contains p = true) h
    simp only [walkFrom, h1, if_true]
    rw [walkFrom_ok w m rest (ap ++ [x]) ht, List.append_assoc, List.singleton_append]

theorem walk_ok (w : World) (m q : List String) (hq : q ≠ []) (h : HasAttrPath w m q) : walk w m q = .ok (m, q) := by
  obtain ⟨a, rest, rfl⟩ := List.exists_cons_of_ne_nil hq
  obtain ⟨h1, ht⟩ := prefixes_cons (P := fun p => (w.attrsOf m).contains p = true) (pre := []) h
  have h1' : [a] ∈ w.attrsOf m := by simpa using h1
  simp [walk, h1', walkFrom_ok w m rest [a] ht]

/-- one round of the loop, with `m` and `j` components of `q` taken as the module path -/
theorem resolveAt_append (w : World) (m q : List String) (hm : m ≠ []) (j : Nat) :
    resolveAt w (m ++ q) (m.length + j) =
      match importWith w (m ++ q.take j) ((q.drop j).headD "") with
      | .ok => walk w (m ++ q.take j) (q.drop j)
      | .foreign => .error .moduleNotFound
      | .notFound => if j = 0 ∧ m.length = 1 then .error .moduleNotFound else resolveAt w (m ++ q) (m.length + j - 1) := by
  have hmlen : 0 < m.length := List.length_pos_iff.mpr hm
  obtain ⟨k, hk⟩ : ∃ k, m.length + j = k + 1 := ⟨m.length + j - 1, by omega⟩
  have hk0 : k = 0 ↔ j = 0 ∧ m.length = 1 := by omega
  rw [hk, resolveAt, ← hk, List.take_length_add_append, List.drop_length_add_append, hk, Nat.add_sub_cancel]
  simp only [hk0]
  rfl

theorem resolveAt_roundtrip (w : World) (m q : List String) (hm : m ≠ []) (himp : importMod w m = .ok)
    (hq : q ≠ []) (hattr : HasAttrPath w m q) (hns : NoShadow w m q) :
    ∀ j, j < q.length → resolveAt w (m ++ q) (m.length + j) = .ok (m, q)
  | 0, _ => by
    obtain ⟨a, rest, rfl⟩ := List.exists_cons_of_ne_nil hq
    have h1 : (w.attrsOf m).contains [a] = true := by simpa using hattr 1 (by omega) (by simp)
    simp only [resolveAt_append w m _ hm, List.take_zero, List.append_nil, List.drop_zero, List.headD_cons, importWith,
      himp, h1, if_true]
    exact walk_ok w m (a :: rest) hq hattr
  | j + 1, hj => by
    have hnf : importMod w (m ++ q.take (j + 1)) = .notFound := by
      obtain ⟨a, rest, rfl⟩ := List.exists_cons_of_ne_nil hq
      exact importMod_notFound w m a _ himp (by simpa using hns 1 (by omega) (by simp at hj ⊢; omega))
    simp only [resolveAt_append w m q hm, importWith, hnf]
    rw [if_neg (by omega), Nat.add_succ_sub_one]
    exact resolveAt_roundtrip w m q hm himp hq hattr hns j (by omega)

theorem walk_error_of_shifted (w : World) (M names : List String) (h : 2 ≤ names.length) (e : ResErr)
    (he : walk w M names = .error e) : e = .moduleNotFound := by
  have h1 : ¬ names.length = 1 := by omega
  simp only [walk] at he
  split at he
  · cases he
  · simp only [h1, if_false] at he
    cases he
    rfl

theorem resolveAt_error (w : World) (comps : List String) : ∀ k, k + 2 ≤ comps.length → ∀ e,
    resolveAt w comps k = .error e → e = .moduleNotFound
  | 0, _, e, he => by
    simp only [resolveAt] at he
    cases he; rfl
  | k + 1, hk, e, he => by
    simp only [resolveAt] at he
    split at he
    · exact walk_error_of_shifted w _ _ (by simp; omega) e he
    · cases he; rfl
    · split at he
      · cases he; rfl
      · exact resolveAt_error w comps k (by omega) e he

/-- `resolve` and the split-at-the-last-dot rule agree, except where the latter raises `ModuleNotFoundError` and the
former shifts a component and goes on (with at least two components left as attribute path) -/
theorem resolveComps_old_or_shift (w : World) (comps : List String) :
    resolveComps w comps = resolveOldComps w comps ∨
      (resolveOldComps w comps = .error .moduleNotFound ∧
        ∃ k, k + 2 ≤ comps.length ∧ resolveComps w comps = resolveAt w comps k) := by
  simp only [resolveComps, resolveOldComps]
  split
  · exact .inl rfl
  · obtain ⟨k, hk⟩ : ∃ k, comps.length - 1 = k + 1 := ⟨comps.length - 2, by omega⟩
    rw [hk, resolveAt]
    split <;> rename_i himp <;> simp only [himp, true_or]
    split
    · exact .inl rfl
    · exact .inr ⟨trivial, k, by omega, rfl⟩

/-- a string whose first component is no importable module: `ModuleNotFoundError` at every round of the loop -/
theorem resolveAt_unknown_top (w : World) (c0 : String) (rest : List String)
    (h : w.modules.contains [c0] = false) : ∀ k, resolveAt w (c0 :: rest) k = .error .moduleNotFound
  | 0 => rfl
  | k + 1 => by
    have : importWith w ((c0 :: rest).take (k + 1)) (((c0 :: rest).drop (k + 1)).headD "") = .notFound := by
      have h' : [c0] ∉ w.modules := by simpa using h
      simp [importWith, importMod, importFrom, h']
    simp only [resolveAt, this]
    split
    · rfl
    · exact resolveAt_unknown_top w c0 rest h k

/-- a member name as Python allows it: not empty, does not start with a digit, no `|` -/
def identLike (s : String) : Bool :=
  match s.toList with
  | [] => false
  | c :: cs => !c.isDigit && (c :: cs).all (fun x => x != '|')

/-- member names are distinct identifiers -/
structure EnumCls.WF (e : EnumCls) : Prop where
  names_nodup : (e.members.map Prod.fst).Nodup
  ident : ∀ p ∈ e.members, identLike p.1 = true

theorem find_by_name : ∀ (l : List (String × Nat)), (l.map Prod.fst).Nodup → ∀ p ∈ l,
    l.find? (fun x => x.1 == p.1) = some p
  | [], _, _, hp => nomatch hp
  | x :: l, hn, p, hp => by
    simp only [List.map_cons, List.nodup_cons] at hn
    rcases List.mem_cons.mp hp with rfl | hp
    · simp
    · have hne : x.1 ≠ p.1 := fun e => hn.1 (e ▸ List.mem_map_of_mem hp)
      simp [hne, find_by_name l hn.2 p hp]

theorem byName_mem (e : EnumCls) (hwf : e.WF) (p : String × Nat) (hp : p ∈ e.members) : e.byName p.1 = some p.2 := by
  simp [EnumCls.byName, find_by_name e.members hwf.names_nodup p hp]

theorem byName_some (e : EnumCls) (n : String) (v : Nat) (h : e.byName n = some v) : (n, v) ∈ e.members := by
  simp only [EnumCls.byName] at h
  split at h <;> cases h
  rename_i p hp
  have hn := List.find?_some hp
  simp only [beq_iff_eq] at hn
  exact hn ▸ List.mem_of_find?_eq_some hp

theorem nameOf_some (e : EnumCls) (v : Nat) (n : String) (h : e.nameOf v = some n) : (n, v) ∈ e.members := by
  simp only [EnumCls.nameOf] at h
  split at h <;> cases h
  rename_i p hp
  have hv := List.find?_some hp
  simp only [beq_iff_eq] at hv
  exact hv ▸ List.mem_of_find?_eq_some hp

theorem nameOf_none (e : EnumCls) (v : Nat) (h : e.nameOf v = none) : ∀ p ∈ e.members, p.2 ≠ v := by
  simp only [EnumCls.nameOf] at h
  split at h
  · cases h
  · rename_i hp
    intro p hpm hv
    have := List.find?_eq_none.mp hp p hpm
    simp [hv] at this

theorem digitsOf_toList (n : Nat) : (digitsOf n).toList = Nat.toDigits 10 n := by simp [digitsOf]

theorem toDigits_isDigit {n : Nat} {c : Char} (h : c ∈ Nat.toDigits 10 n) : c.isDigit = true :=
  Nat.isDigit_of_mem_toDigits (by decide) (by decide) h

theorem parseNat_digitsOf (n : Nat) : parseNat (digitsOf n) = some n := by
  have h1 : (Nat.toDigits 10 n).isEmpty = false := by simp [Nat.toDigits_ne_nil]
  have h2 : (Nat.toDigits 10 n).all Char.isDigit = true := List.all_eq_true.mpr fun _ => toDigits_isDigit
  simp [parseNat, digitsOf_toList, h1, h2, Nat.ofDigitChars_ten_toDigits]

theorem digitsOf_not_ident (n : Nat) : identLike (digitsOf n) = false := by
  simp only [identLike, digitsOf_toList]
  cases h : Nat.toDigits 10 n with
  | nil => rfl
  | cons c cs => simp [toDigits_isDigit (n := n) (c := c) (by rw [h]; simp)]

theorem digitsOf_free (n : Nat) : freeOf '|' (digitsOf n) = true := by
  rw [freeOf_iff, digitsOf_toList]
  intro x hx hxe
  exact absurd (toDigits_isDigit hx) (by rw [hxe]; decide)

theorem identLike_free (s : String) (h : identLike s = true) : freeOf '|' s = true := by
  simp only [identLike] at h
  split at h
  · cases h
  · rename_i c cs hs
    simp only [Bool.and_eq_true] at h
    simp only [freeOf, hs]
    exact h.2

theorem byName_not_ident (e : EnumCls) (hwf : e.WF) (s : String) (h : identLike s = false) : e.byName s = none := by
  cases hb : e.byName s with
  | none => rfl
  | some v =>
    have := hwf.ident _ (byName_some e s v hb)
    simp [h] at this

theorem joinStr_not_ident : ∀ (names : List String), 2 ≤ names.length → identLike (joinStr '|' names) = false
  | a :: b :: rest, _ => by
    simp only [identLike, joinStr, String.toList_ofList, List.map_cons, joinC]
    split
    · rfl
    · rename_i c cs hs
      have hmem : '|' ∈ c :: cs := by rw [← hs]; simp
      have : (c :: cs).all (fun x => x != '|') = false := by
        rw [List.all_eq_false]
        exact ⟨'|', hmem, by simp⟩
      simp [this]

/-- Flag values are bit sets: `x &&& v = x` says "`x` is a subset of `v`" -/
theorem sub_or {a b v : Nat} (h1 : a &&& v = a) (h2 : b &&& v = b) : (a ||| b) &&& v = a ||| b := by
  rw [Nat.and_or_distrib_right, h1, h2]

theorem orAll_sub (v : Nat) : ∀ (l : List Nat), (∀ x ∈ l, x &&& v = x) → orAll l &&& v = orAll l
  | [], _ => by simp [orAll]
  | x :: l, h => by
    have := orAll_sub v l (fun y hy => h y (by simp [hy]))
    simp only [orAll, List.foldr_cons] at this ⊢
    exact sub_or (h x (by simp)) this

theorem xor_sub {c v : Nat} (h : c &&& v = c) : (v ^^^ c) &&& v = v ^^^ c := by
  rw [Nat.and_xor_distrib_right, Nat.and_self, h]

theorem or_xor {c v : Nat} (h : c &&& v = c) : c ||| (v ^^^ c) = v := by
  apply Nat.eq_of_testBit_eq
  intro i
  have := congrArg (·.testBit i) h
  simp only [Nat.testBit_and, Nat.testBit_or, Nat.testBit_xor] at this ⊢
  cases hc : c.testBit i <;> cases hv : v.testBit i <;> simp_all

theorem eq_of_xor_zero {c v : Nat} (h : v ^^^ c = 0) : v = c := by
  apply Nat.eq_of_testBit_eq
  intro i
  have := congrArg (fun n => n.testBit i) h
  simp only [Nat.testBit_xor, Nat.zero_testBit] at this
  cases hv : v.testBit i <;> cases hc : c.testBit i <;> simp [hv, hc] at this ⊢

theorem orAll_append (a b : List Nat) : orAll (a ++ b) = orAll a ||| orAll b := by
  induction a with
  | nil => simp [orAll]
  | cons x a ih =>
    simp only [orAll, List.cons_append, List.foldr_cons] at ih ⊢
    rw [ih, Nat.or_assoc]

theorem flag_of_valid (e : EnumCls) (v : Nat) (hnone : e.nameOf v = none) (hv : e.valid v = true) :
    e.isFlag = true ∧ (e.keep = true ∨ v &&& e.singles = v) := by
  simp only [EnumCls.valid, hnone, Option.isSome_none, Bool.false_or, Bool.and_eq_true, Bool.or_eq_true, beq_iff_eq] at hv
  exact hv

theorem valid_of_sub (e : EnumCls) (v y : Nat) (hnone : e.nameOf v = none) (hv : e.valid v = true)
    (hy : y &&& v = y) : e.valid y = true := by
  obtain ⟨hf, hk⟩ := flag_of_valid e v hnone hv
  simp only [EnumCls.valid, hf, Bool.true_and, Bool.or_eq_true, beq_iff_eq]
  right
  rcases hk with hk | hk
  · left; exact hk
  · right; rw [← hy, Nat.and_assoc, hk]

theorem combine_eq (e : EnumCls) (v : Nat) (hvalid : ∀ y, y &&& v = y → e.valid y = true) :
    ∀ (l : List (String × Nat)) (acc : Nat), acc &&& v = acc →
      (∀ p ∈ l, e.part p.1 = some p.2 ∧ p.2 &&& v = p.2) →
      combine e acc (l.map Prod.fst) = some (acc ||| orAll (l.map Prod.snd))
  | [], acc, _, _ => by simp [combine, orAll]
  | p :: l, acc, hacc, h => by
    have hp := h p (by simp)
    have hsub := sub_or hacc hp.2
    simp only [List.map_cons, combine, hp.1, EnumCls.construct, hvalid _ hsub, if_true]
    rw [combine_eq e v hvalid l (acc ||| p.2) hsub (fun q hq => h q (by simp [hq]))]
    simp only [orAll, List.foldr_cons, Nat.or_assoc]

theorem parts_mem (e : EnumCls) (v : Nat) : ∀ p ∈ e.parts v, p ∈ e.members ∧ p.2 &&& v = p.2 := by
  intro p hp
  simp only [EnumCls.parts, List.mem_append] at hp
  rcases hp with hp | hp
  · simp only [List.mem_filter, Bool.and_eq_true, beq_iff_eq] at hp
    exact ⟨hp.1, hp.2.2⟩
  · split at hp
    · cases hp
    · simp only [List.mem_filter, Bool.and_eq_true, beq_iff_eq] at hp
      exact ⟨hp.1, hp.2.2⟩

theorem part_digits (e : EnumCls) (hwf : e.WF) (n : Nat) (hv : e.valid n = true) : e.part (digitsOf n) = some n := by
  simp [EnumCls.part, byName_not_ident e hwf _ (digitsOf_not_ident n), parseNat_digitsOf, EnumCls.construct, hv]

/-- a Flag name that is no member name and whose `|`-separated parts each resolve, resolves to the OR of the parts -/
theorem enumMember_join (e : EnumCls) (hflag : e.isFlag = true) (v : Nat) (hvalid : ∀ y, y &&& v = y → e.valid y = true)
    (l : List (String × Nat)) (hne : l ≠ [])
    (hl : ∀ p ∈ l, (e.part p.1 = some p.2 ∧ p.2 &&& v = p.2) ∧ freeOf '|' p.1 = true)
    (hb : e.byName (joinStr '|' (l.map Prod.fst)) = none) :
    enumMember e (joinStr '|' (l.map Prod.fst)) = .ok (orAll (l.map Prod.snd)) := by
  have hsplit := splitStr_joinStr '|' (l.map Prod.fst) (by simpa using hne) (by
    intro n hn
    obtain ⟨p, hp, rfl⟩ := List.mem_map.mp hn
    exact (hl p hp).2)
  have hc := combine_eq e v hvalid l 0 (by simp) (fun p hp => (hl p hp).1)
  simp [enumMember, hb, hflag, hsplit, hc]

/-- the OR of the parts `v` is named after -/
abbrev partsOr (e : EnumCls) (v : Nat) : Nat := orAll ((e.parts v).map Prod.snd)

/-- the `|`-separated pieces of a pseudo-member's name, each with its value: the named parts, then the number of the
unnamed bits, if any -/
def namedParts (e : EnumCls) (v : Nat) : List (String × Nat) :=
  e.parts v ++ (if v ^^^ partsOr e v = 0 then [] else [(digitsOf (v ^^^ partsOr e v), v ^^^ partsOr e v)])

theorem partsOr_sub (e : EnumCls) (v : Nat) : partsOr e v &&& v = partsOr e v :=
  orAll_sub v _ fun x hx => by
    obtain ⟨p, hp, rfl⟩ := List.mem_map.mp hx
    exact (parts_mem e v p hp).2

theorem namedParts_fst (e : EnumCls) (v : Nat) :
    (namedParts e v).map Prod.fst =
      (e.parts v).map Prod.fst ++ (if (v ^^^ partsOr e v == 0) = true then [] else [digitsOf (v ^^^ partsOr e v)]) := by
  simp only [namedParts, beq_iff_eq, List.map_append]
  split <;> rfl

theorem namedParts_or (e : EnumCls) (v : Nat) : orAll ((namedParts e v).map Prod.snd) = v := by
  simp only [namedParts, List.map_append, orAll_append]
  split
  · next hu0 => simpa [orAll] using (eq_of_xor_zero hu0).symm
  · simpa [orAll] using or_xor (partsOr_sub e v)

/-- every piece resolves to its value, inside `v`, and has no `|` -/
theorem namedParts_resolve (e : EnumCls) (hwf : e.WF) (v : Nat) (hvalid : ∀ y, y &&& v = y → e.valid y = true) :
    ∀ p ∈ namedParts e v, (e.part p.1 = some p.2 ∧ p.2 &&& v = p.2) ∧ freeOf '|' p.1 = true := by
  intro p hp
  simp only [namedParts, List.mem_append] at hp
  rcases hp with hp | hp
  · obtain ⟨hm, hs⟩ := parts_mem e v p hp
    exact ⟨⟨by simp [EnumCls.part, byName_mem e hwf p hm], hs⟩, identLike_free _ (hwf.ident p hm)⟩
  · split at hp
    · cases hp
    · rw [List.mem_singleton.mp hp]
      have hus := xor_sub (partsOr_sub e v)
      exact ⟨⟨part_digits e hwf _ (hvalid _ hus), hus⟩, digitsOf_free _⟩

/-- a value without a name of its own but with a named part has two pieces at least: one part alone would be the value -/
theorem namedParts_length (e : EnumCls) (v : Nat) (hnone : e.nameOf v = none) (hcomb : partsOr e v ≠ 0) :
    2 ≤ (namedParts e v).length := by
  have hpne : e.parts v ≠ [] := fun h0 => hcomb (by simp [partsOr, h0, orAll])
  simp only [namedParts, List.length_append]
  split
  · next hu0 =>
    have hv : v = partsOr e v := eq_of_xor_zero hu0
    match hps : e.parts v with
    | [] => exact absurd hps hpne
    | [p] =>
      simp only [partsOr, hps, List.map_cons, List.map_nil, orAll, List.foldr_cons, List.foldr_nil, Nat.or_zero] at hv
      exact absurd hv.symm (nameOf_none e v hnone p (parts_mem e v p (by rw [hps]; simp)).1)
    | _ :: _ :: _ => simp
  · have := List.length_pos_iff.mpr hpne
    simp only [List.length_singleton]
    omega

end Lt.ClassRes
