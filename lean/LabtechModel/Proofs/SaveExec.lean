import LabtechModel.Model.Save
/-! Closed form of `Lt.Save.exec` (state after `k` micro-steps), by induction on `k`; the stage of the
    entry that a crash finds; what the observations say of an entry. -/
namespace Lt.Save

def closed (n m : Nat) (v : Ver) (pre : Entry) (k : Nat) : St :=
  if k ≤ 2 then { disk := pre, opened := .none }
  else if k = 3 then { disk := mkdirE pre, opened := .none }
  else if k ≤ 5 + n then { disk := setMeta (mkdirE pre) .torn, opened := .mdoc (k - 4) }
  else if k ≤ 8 + n then { disk := setMeta (mkdirE pre) (.full v), opened := .none }
  else if k ≤ 10 + n + m then
    { disk := setData (setMeta (mkdirE pre) (.full v)) .torn, opened := .data (k - 9 - n) }
  else { disk := setData (setMeta (mkdirE pre) (.full v)) (.full v), opened := .none }

theorem mkdirE_idem (e : Entry) : mkdirE (mkdirE e) = mkdirE e := by cases e <;> rfl
theorem setMeta_setMeta (e : Entry) (a b : File) : setMeta (setMeta e a) b = setMeta e b := by
  cases e <;> rfl
theorem setData_setData (e : Entry) (a b : File) : setData (setData e a) b = setData e b := by
  cases e <;> rfl
theorem mkdirE_setMeta_mkdirE (e : Entry) (a : File) :
    mkdirE (setMeta (mkdirE e) a) = setMeta (mkdirE e) a := by cases e <;> rfl

section
variable {n m : Nat} {v : Ver} {pre : Entry} {k : Nat}

theorem closed_untouched (h : k ≤ 2) : closed n m v pre k = { disk := pre, opened := .none } := if_pos h

theorem closed_metaOpen (h1 : 4 ≤ k) (h2 : k ≤ 5 + n) :
    closed n m v pre k = { disk := setMeta (mkdirE pre) .torn, opened := .mdoc (k - 4) } := by
  simp (disch := omega) only [closed, if_neg, if_pos]

theorem closed_between (h1 : 6 + n ≤ k) (h2 : k ≤ 8 + n) :
    closed n m v pre k = { disk := setMeta (mkdirE pre) (.full v), opened := .none } := by
  simp (disch := omega) only [closed, if_neg, if_pos]

theorem closed_dataOpen (h1 : 9 + n ≤ k) (h2 : k ≤ 10 + n + m) :
    closed n m v pre k =
      { disk := setData (setMeta (mkdirE pre) (.full v)) .torn, opened := .data (k - 9 - n) } := by
  simp (disch := omega) only [closed, if_neg, if_pos]

theorem closed_done (h : 11 + n + m ≤ k) :
    closed n m v pre k = { disk := setData (setMeta (mkdirE pre) (.full v)) (.full v), opened := .none } := by
  simp (disch := omega) only [closed, if_neg]
end

theorem exec_eq_closed (n m : Nat) (v : Ver) (pre : Entry) (k : Nat) :
    exec n m v pre k = closed n m v pre k := by
  induction k with
  | zero => rfl
  | succ k ih =>
    -- the cases of `stepAt n m k`, in its own order
    simp only [exec, ih, stepAt]
    by_cases h0 : k = 0
    · subst h0; rfl
    by_cases h1 : k = 1
    · subst h1; rfl
    by_cases h2 : k = 2
    · subst h2; rfl
    by_cases h3 : k = 3
    · subst h3; rw [closed_metaOpen (k := 3 + 1) (by omega) (by omega)]; rfl
    simp only [h0, h1, h2, h3, if_false]
    by_cases h4 : k ≤ 4 + n
    · rw [if_pos h4, closed_metaOpen (by omega) (by omega), closed_metaOpen (k := k + 1) (by omega) (by omega),
        show k + 1 - 4 = k - 4 + 1 by omega]; rfl
    rw [if_neg h4]
    by_cases h5 : k = 5 + n
    · rw [if_pos h5, closed_metaOpen (by omega) (by omega), closed_between (k := k + 1) (by omega) (by omega)]
      simp only [apply, setMeta_setMeta]; rw [if_pos (by omega)]
    rw [if_neg h5]
    by_cases h6 : k = 6 + n
    · rw [if_pos h6, closed_between (by omega) (by omega), closed_between (k := k + 1) (by omega) (by omega)]; rfl
    rw [if_neg h6]
    by_cases h7 : k = 7 + n
    · rw [if_pos h7, closed_between (by omega) (by omega), closed_between (k := k + 1) (by omega) (by omega)]
      simp only [apply, mkdirE_setMeta_mkdirE]
    rw [if_neg h7]
    by_cases h8 : k = 8 + n
    · rw [if_pos h8, closed_between (by omega) (by omega), closed_dataOpen (k := k + 1) (by omega) (by omega),
        show k + 1 - 9 - n = 0 by omega]; rfl
    rw [if_neg h8]
    by_cases h9 : k ≤ 9 + n + m
    · rw [if_pos h9, closed_dataOpen (by omega) (by omega), closed_dataOpen (k := k + 1) (by omega) (by omega),
        show k + 1 - 9 - n = k - 9 - n + 1 by omega]; rfl
    rw [if_neg h9]
    by_cases h10 : k = 10 + n + m
    · rw [if_pos h10, closed_dataOpen (by omega) (by omega), closed_done (k := k + 1) (by omega)]
      simp only [apply, setData_setData]; rw [if_pos (by omega)]
    · rw [if_neg h10, closed_done (by omega), closed_done (k := k + 1) (by omega)]

/-- the stages the entry goes through during one save, as a crash finds them -/
inductive Stage
  | untouched | dirMade | metaTorn | metaFull | dataTorn | complete

def Stage.entry (v : Ver) (pre : Entry) : Stage → Entry
  | .untouched => pre
  | .dirMade => mkdirE pre
  | .metaTorn => setMeta (mkdirE pre) .torn
  | .metaFull => setMeta (mkdirE pre) (.full v)
  | .dataTorn => setData (setMeta (mkdirE pre) (.full v)) .torn
  | .complete => setData (setMeta (mkdirE pre) (.full v)) (.full v)

/-- where a crash point lies when it finds a stage: the three broken stages lie strictly between the
    creation of the key directory and the completion of the result file -/
def Stage.reached (n m : Nat) (durable : Bool) (k : Nat) : Stage → Prop
  | .untouched => k ≤ 2
  | .dirMade => k = 3
  | .complete => completeAt n m durable ≤ k
  | _ => 3 < k ∧ k < completeAt n m durable

theorem le_completeAt (n m : Nat) (durable : Bool) : 10 + n + m ≤ completeAt n m durable := by
  cases durable <;> simp [completeAt]

theorem crash_stage (n m : Nat) (v : Ver) (pre : Entry) (k : Nat) (durable : Bool) :
    ∃ s : Stage, s.reached n m durable k ∧ crash n m v pre k durable = s.entry v pre := by
  have hc := le_completeAt n m durable
  unfold crash; rw [exec_eq_closed]
  by_cases h2 : k ≤ 2
  · exact ⟨.untouched, h2, by rw [closed_untouched h2]; rfl⟩
  by_cases h3 : k = 3
  · exact ⟨.dirMade, h3, by subst h3; rfl⟩
  by_cases h5 : k ≤ 5 + n
  · rw [closed_metaOpen (by omega) h5]
    -- the open `metadata.json` is complete iff all `n + 1` writes were performed and are durable
    by_cases hw : (durable && k - 4 == n + 1) = true
    · exact ⟨.metaFull, ⟨by omega, by omega⟩, by simp [crashView, hw, Stage.entry, setMeta_setMeta]⟩
    · exact ⟨.metaTorn, ⟨by omega, by omega⟩, by simp [crashView, hw, Stage.entry]⟩
  by_cases h8 : k ≤ 8 + n
  · exact ⟨.metaFull, ⟨by omega, by omega⟩, by rw [closed_between (by omega) h8]; rfl⟩
  by_cases h10 : k ≤ 10 + n + m
  · rw [closed_dataOpen (by omega) h10]
    by_cases hw : (durable && k - 9 - n == m + 1) = true
    · refine ⟨.complete, ?_, by simp [crashView, hw, Stage.entry, setData_setData]⟩
      simp only [Bool.and_eq_true, beq_iff_eq] at hw
      rw [hw.1]; show 10 + n + m ≤ k; omega
    · refine ⟨.dataTorn, ⟨by omega, ?_⟩, by simp [crashView, hw, Stage.entry]⟩
      cases durable
      · show k < 11 + n + m; omega
      · simp only [Bool.true_and, beq_iff_eq] at hw; show k < 10 + n + m; omega
  · refine ⟨.complete, ?_, by rw [closed_done (by omega)]; rfl⟩
    cases durable
    · show 11 + n + m ≤ k; omega
    · show 10 + n + m ≤ k; omega

/-- the boundaries that matter: which stage is found says on which side of the two windows the crash point lies -/
theorem Stage.reached_bounds {n m : Nat} {durable : Bool} {k : Nat} {s : Stage} (h : s.reached n m durable k) :
    (s = .untouched ↔ k ≤ 2) ∧ (s = .dirMade ↔ k = 3) ∧ (s = .complete ↔ completeAt n m durable ≤ k) := by
  have := le_completeAt n m durable
  cases s <;> simp [Stage.reached] at h ⊢ <;> omega

theorem Stage.safe_first (new : Ver) (s : Stage) :
    safeB [new] (s.entry new .absent) = true ↔ s = .untouched ∨ s = .complete := by
  cases s <;> simp [Stage.entry, mkdirE, setMeta, setData, safeB, isCached, load]

/-- overwrite of a good entry: safe exactly until `metadata.json` is truncated, and again when complete -/
theorem Stage.safe_overwrite {old new : Ver} (hne : old ≠ new) (s : Stage) :
    safeB [old, new] (s.entry new (.dir (.full old) (.full old))) = true ↔
      s = .untouched ∨ s = .dirMade ∨ s = .complete := by
  cases s <;> simp [Stage.entry, mkdirE, setMeta, setData, safeB, isCached, load, hne, hne.symm]

theorem load_eq_ok {e : Entry} {v mv : Ver} : load e = .ok v mv ↔ e = .dir (.full mv) (.full v) := by
  unfold load; split <;> simp
  · constructor <;> (rintro ⟨rfl, rfl⟩; exact ⟨rfl, rfl⟩)
  · rintro rfl; simp_all

/-- the post-condition spelled out: no key directory, or the complete entry of one good save -/
theorem safeB_iff {good : List Ver} {e : Entry} :
    safeB good e = true ↔ e = .absent ∨ ∃ v ∈ good, e = .dir (.full v) (.full v) := by
  cases e <;> simp [safeB, isCached, load_eq_ok]

end Lt.Save
