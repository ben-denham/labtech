import LabtechModel.Proofs.IntrDrain
/-!
# M10: every tracked future is accounted for, at every prefix

`covered s t`: the future of `t` is cancelled, or holds an outcome, or its process was found dead
(and the dead-process loop will mark it), or its worker is in the running map, or it is still
queued in the executor. `CovX cfg X s`: every future in `future_to_task` (and every tid of `X`, the
task whose `submit_task` is in progress) is covered. It holds after EVERY prefix of the main
stream and of both handlers' streams (`Cov_walk`), without any hypothesis: there is no instant at which a
tracked future is nowhere (the situation in which the drain loop would spin for ever; this was
defect D14 before its repair).
-/
namespace Lt

variable {cfg : Config} {p : Problem}

def covered (s : IS) (t : Tid) : Prop :=
  t ∈ s.cancelled ∨ t ∈ s.done.map (·.1) ∨ t ∈ s.zombies ∨ t ∈ s.rs.running.map Job.tid ∨
    t ∈ s.rs.queued.map Job.tid

/-- (process runners, while no exception propagates) every tracked future, and every tid of `X`,
    is covered -/
def CovX (cfg : Config) (X : List Tid) (s : IS) : Prop :=
  cfg.backend ≠ .serial → s.rs.status = .running → ∀ t, (t ∈ s.rs.futs ∨ t ∈ X) → covered s t

theorem CovX.weaken {X : List Tid} {s : IS} (h : CovX cfg X s) : CovX cfg [] s :=
  fun hb hr t ht => h hb hr t (ht.elim Or.inl (fun h => by simp at h))

/-- primitives under which `covered` only grows and `future_to_task` does not change -/
def Prim.covMono : Prim → Bool
  | .unregPending _ | .regFuture _ | .serialAppend _ | .popFuture _ _ | .clearDeque | .popDeque => false
  | _ => true

theorem covMono_of_noexec {q : Prim} (h : q.touchesExec = false) : q.covMono = true := by
  cases q <;> first | rfl | exact Bool.noConfusion h

theorem mem_tids_eraseP {l : List Job} {t x : Tid} (h : x ∈ l.map Job.tid) :
    x ∈ (l.eraseP (hasTid t)).map Job.tid ∨ x = t := by
  obtain ⟨j, hj, rfl⟩ := List.mem_map.mp h
  by_cases he : j.tid = t
  · exact Or.inr he
  · exact Or.inl (List.mem_map.mpr ⟨j, (List.mem_eraseP_of_neg (by simp [hasTid, he])).mpr hj, rfl⟩)

theorem mem_map_append_left {α β} {f : α → β} {b : β} {l l' : List α} (h : b ∈ l.map f) : b ∈ (l ++ l').map f := by
  rw [List.map_append]; exact List.mem_append_left _ h

section
variable {s : IS} {t : Tid}
theorem covered.canc (h : t ∈ s.cancelled) : covered s t := Or.inl h
theorem covered.done (h : t ∈ s.done.map (·.1)) : covered s t := Or.inr (Or.inl h)
theorem covered.zomb (h : t ∈ s.zombies) : covered s t := Or.inr (Or.inr (Or.inl h))
theorem covered.run (h : t ∈ s.rs.running.map Job.tid) : covered s t := Or.inr (Or.inr (Or.inr (Or.inl h)))
theorem covered.queued (h : t ∈ s.rs.queued.map Job.tid) : covered s t := Or.inr (Or.inr (Or.inr (Or.inr h)))

/-- `t` stays covered if it does wherever it was -/
theorem covered.imp {s' : IS} (h : covered s t) (hc : t ∈ s.cancelled → covered s' t)
    (hd : t ∈ s.done.map (·.1) → covered s' t) (hz : t ∈ s.zombies → covered s' t)
    (hr : t ∈ s.rs.running.map Job.tid → covered s' t) (hq : t ∈ s.rs.queued.map Job.tid → covered s' t) :
    covered s' t :=
  h.elim hc (·.elim hd (·.elim hz (·.elim hr hq)))
end

theorem covered_mono (q : Prim) (s : IS) (hq : q.covMono = true) (hrun : s.rs.status = .running) :
    (applyPrim cfg p q s).rs.futs = s.rs.futs ∧ ∀ t, covered s t → covered (applyPrim cfg p q s) t := by
  by_cases hx : q.touchesExec = false
  · obtain ⟨h1, _, h3, h4, h5, h6, h7, _⟩ := applyPrim_exec q s hx
    refine ⟨h3, fun t ht => ?_⟩
    simp only [covered, h1, h4, h5, h6, h7]; exact ht
  rw [applyPrim_running _ _ hrun]
  cases q <;> (try exact absurd rfl hx) <;> (try exact Bool.noConfusion hq)
  case consumeResults c =>
    refine ⟨rfl, fun t ht => ht.imp (.canc ·) (fun h => .done (mem_map_append_left h))
      (fun h => .zomb (List.mem_append_left _ h)) (fun h => ?_) (.queued ·)⟩
    -- a worker that reports becomes done (unless cancelled), one found dead becomes a zombie
    obtain ⟨j, hj, rfl⟩ := List.mem_map.mp h
    rcases selN_split c.finish s.rs.running 0 j hj with hf | hs
    · by_cases hd : p.dies j.tid = true
      · refine .zomb ?_
        simp only [stepPrim, List.mem_append]
        exact Or.inr (List.mem_map.mpr ⟨j, List.mem_filter.mpr ⟨hf, hd⟩, rfl⟩)
      · by_cases hc : j.tid ∈ s.cancelled
        · exact .canc hc
        · refine .done ?_
          simp only [stepPrim, List.map_append, List.mem_append, List.map_map]
          refine Or.inr (List.mem_map.mpr ⟨j, ?_, rfl⟩)
          simp only [List.mem_filter, decide_eq_true_eq, Bool.not_eq_eq_eq_not, Bool.not_true]
          exact ⟨⟨hf, by simpa using hd⟩, hc⟩
    · exact .run (List.mem_map.mpr ⟨j, hs, rfl⟩)
  case markDead u =>
    simp only [stepPrim]
    split
    · next hz =>
      have hd : ∀ t, t ∈ s.done.map (·.1) ∨ (t = u ∧ u ∉ s.cancelled) →
          t ∈ (if u ∈ s.cancelled then s.done else s.done ++ [(u, Outcome.died)]).map (·.1) := by
        intro t h
        split
        · next hc => exact h.elim id (fun e => absurd hc e.2)
        · rw [List.map_append, List.mem_append]
          exact h.imp id (fun ⟨e, _⟩ => e ▸ List.mem_singleton_self _)
      refine ⟨rfl, fun t ht => ht.imp (.canc ·) (fun h => .done (hd t (Or.inl h))) (fun h => ?_) (.run ·) (.queued ·)⟩
      by_cases he : t = u
      · by_cases hc : u ∈ s.cancelled
        · exact .canc (he ▸ hc)
        · exact .done (hd t (Or.inr ⟨he, hc⟩))
      · exact .zomb ((List.mem_erase_of_ne he).mpr h)
    · exact ⟨rfl, fun t ht => ht⟩
  case cancelOne u =>
    exact ⟨rfl, fun t ht => ht.imp (fun h => .canc (List.mem_append_left _ h)) (.done ·) (.zomb ·) (.run ·)
      (fun h => (mem_tids_eraseP (t := u) h).elim (.queued ·) (fun e => .canc (List.mem_append_right _ (List.mem_singleton.mpr e))))⟩
  case stopOne u =>
    refine ⟨rfl, fun t ht => ?_⟩
    by_cases he : t = u
    · exact .canc (List.mem_append_right _ (List.mem_singleton.mpr he))
    · exact ht.imp (fun h => .canc (List.mem_append_left _ h)) (.done ·) (fun h => .zomb (List.mem_filter.mpr ⟨h, decide_eq_true he⟩))
        (fun h => (mem_tids_eraseP (t := u) h).elim (.run ·) (fun e => absurd e he)) (.queued ·)
  case enqueue u =>
    exact ⟨rfl, fun t ht => ht.imp (.canc ·) (.done ·) (.zomb ·) (.run ·) (fun h => .queued (mem_map_append_left h))⟩
  case procStart u => exact ⟨rfl, fun t ht => ht⟩
  case regRunning u =>
    simp only [stepPrim]
    split
    · exact ⟨rfl, fun t ht => ht.imp (.canc ·) (.done ·) (.zomb ·) (fun h => .run (mem_map_append_left h)) (.queued ·)⟩
    · exact ⟨rfl, fun t ht => ht⟩

theorem Cov_mono (X : List Tid) (q : Prim) (s : IS) (hq : q.covMono = true) (h : CovX cfg X s) :
    CovX cfg X (applyPrim cfg p q s) := by
  by_cases hrun : s.rs.status = .running
  · obtain ⟨h1, h2⟩ := covered_mono q s hq hrun
    intro hb _ t ht
    rw [h1] at ht
    exact h2 t (h hb hrun t ht)
  · rw [applyPrim_stopped _ _ hrun]; exact h

theorem always_Cov_mono (X : List Tid) (ps : List Prim) (s : IS) (hq : ∀ q ∈ ps, q.covMono = true)
    (h : CovX cfg X s) : Always cfg p (CovX cfg X) ps s :=
  always_of_step ps s (fun q hq' s h => Cov_mono X q s (hq q hq') h) h

/-- `_running…[id] = (future, process)` followed by `del _pending…[future]` -/
theorem Cov_reg_unreg (X : List Tid) (u : Tid) (s : IS) (h : CovX cfg X s) :
    CovX cfg X (applyPrim cfg p (Prim.unregPending u) (applyPrim cfg p (Prim.regRunning u) s)) := by
  by_cases hrun : s.rs.status = .running
  · have hrun1 : (applyPrim cfg p (Prim.regRunning u) s).rs.status = .running := by
      rw [applyPrim_status _ _ rfl]; exact hrun
    intro hb _ t ht
    rw [applyPrim_futs _ _ rfl, applyPrim_futs _ _ rfl] at ht
    have hc := h hb hrun t ht
    rw [applyPrim_running _ _ hrun1, applyPrim_running _ _ hrun]
    simp only [stepPrim]
    -- the job dropped from the pending map is the one that was registered as running
    cases hf : s.rs.queued.find? (hasTid u) with
    | none =>
      refine hc.imp (.canc ·) (.done ·) (.zomb ·) (.run ·) (fun h => (mem_tids_eraseP (t := u) h).elim (.queued ·) (fun e => ?_))
      obtain ⟨j, hj, hjt⟩ := List.mem_map.mp h
      have := List.find?_eq_none.mp hf j hj
      simp [hasTid, hjt, e] at this
    | some j =>
      have hju : j.tid = u := by simpa [hasTid] using List.find?_some hf
      exact hc.imp (.canc ·) (.done ·) (.zomb ·) (fun h => .run (mem_map_append_left h))
        (fun h => (mem_tids_eraseP (t := u) h).elim (.queued ·) (fun e => .run (by simp [forkSnap_tid, hju, e])))
  · rw [applyPrim_stopped _ _ hrun, applyPrim_stopped _ _ hrun]; exact h

theorem always_Cov_startPrims (X : List Tid) : ∀ (js : List Job) (s : IS), CovX cfg X s →
    Always cfg p (CovX cfg X) (startPrims js) s := by
  intro js
  induction js with
  | nil => intro s h; exact h
  | cons j js ih =>
    intro s h
    rw [startPrims_cons]
    have h1 := Cov_mono (cfg := cfg) (p := p) X (Prim.procStart j.tid) s rfl h
    have h2 := Cov_mono (cfg := cfg) (p := p) X (Prim.regRunning j.tid) _ rfl h1
    exact ⟨h, h1, h2, ih _ (Cov_reg_unreg X j.tid _ h1)⟩

theorem Cov_regFuture (t : Tid) (s : IS) (h : CovX cfg [t] s) :
    CovX cfg [] (applyPrim cfg p (Prim.regFuture t) s) := by
  by_cases hrun : s.rs.status = .running
  · intro hb _ x hx
    rw [applyPrim_running _ _ hrun] at hx ⊢
    simp only [stepPrim, List.mem_append, List.mem_singleton, List.not_mem_nil, or_false] at hx
    have : covered s x := h hb hrun x (by simpa using hx)
    exact this
  · rw [applyPrim_stopped _ _ hrun]; exact h.weaken

theorem Cov_enqueue (t : Tid) (s : IS) (h : CovX cfg [] s) :
    CovX cfg [t] (applyPrim cfg p (Prim.enqueue t) s) := by
  by_cases hrun : s.rs.status = .running
  · obtain ⟨h1, h2⟩ := covered_mono (Prim.enqueue t) s rfl hrun
    intro hb _ x hx
    rw [h1] at hx
    rcases hx with hx | hx
    · exact h2 x (h hb hrun x (Or.inl hx))
    · simp only [List.mem_singleton] at hx
      subst hx
      rw [applyPrim_running _ _ hrun]
      exact .queued (by simp [stepPrim, mkJob])
  · rw [applyPrim_stopped _ _ hrun]
    intro _ hr; exact absurd hr hrun

theorem Cov_popFuture (t : Tid) (o : Option Outcome) (s : IS) (h : CovX cfg [] s) :
    CovX cfg [] (applyPrim cfg p (Prim.popFuture t o) s) := by
  by_cases hrun : s.rs.status = .running
  · by_cases htf : t ∈ s.rs.futs
    · intro hb _ x hx
      rw [applyPrim_running _ _ hrun] at hx ⊢
      simp only [stepPrim, htf, if_true, List.mem_filter, decide_eq_true_eq, List.not_mem_nil, or_false] at hx
      simp only [stepPrim, htf, if_true]
      refine (h hb hrun x (Or.inl hx.1)).imp (.canc ·) (fun h' => .done ?_) (.zomb ·) (.run ·) (.queued ·)
      obtain ⟨y, hy, rfl⟩ := List.mem_map.mp h'
      exact List.mem_map.mpr ⟨y, List.mem_filter.mpr ⟨hy, by simpa using hx.2⟩, rfl⟩
    · intro _ hr
      rw [applyPrim_running _ _ hrun] at hr
      simp [stepPrim, htf, keyErr] at hr
  · rw [applyPrim_stopped _ _ hrun]; exact h

theorem always_Cov_serial (hb : cfg.backend = .serial) (X : List Tid) (ps : List Prim) (s : IS) :
    Always cfg p (CovX cfg X) ps s :=
  always_of_step ps s (fun _ _ _ _ hb' => absurd hb hb') (fun hb' => absurd hb hb')

theorem always_Cov_startProcesses (X : List Tid) (s : IS) (h : CovX cfg X s) :
    Always cfg p (CovX cfg X) (startProcessesPrims cfg s) s :=
  always_Cov_startPrims X _ s h

theorem always_Cov_submitOne (s : IS) (t : Tid) (h : CovX cfg [] s) :
    Always cfg p (CovX cfg []) (submitOnePrims cfg p s t) s := by
  by_cases hb : cfg.backend = .serial
  · exact always_Cov_serial hb _ _ _
  rw [submitOnePrims, if_neg hb]
  have h1 := Cov_mono (cfg := cfg) (p := p) [] (Prim.startTask t) s rfl h
  have h2 := Cov_enqueue (cfg := cfg) (p := p) t _ h1
  have a := always_Cov_startProcesses (cfg := cfg) (p := p) [t] _ h2
  refine Always.andThen (Always.andThen ⟨h, h1, h2.weaken⟩ (a.mono (fun _ hs => hs.weaken))) ?_
  rw [runPrims_append]
  exact ⟨a.last.weaken, Cov_regFuture t _ a.last⟩

/-- `for future in done:`: the pop keeps `CovX`, the loop body touches nothing `covered` reads -/
theorem always_Cov_done (req : List Tid) : ∀ (cands : List Tid) (s : IS), CovX cfg [] s →
    Always cfg p (CovX cfg []) (donePrims cfg p req cands s) s :=
  (Always.isSeq _).done (fun t s h => ⟨h, Cov_popFuture t none s h⟩)
    (fun t o s h => ⟨h, always_Cov_mono [] _ _
      (fun q hq => covMono_of_noexec (yieldPrims_noexec req _ t o q hq)) (Cov_popFuture t (some o) s h)⟩)

theorem always_Cov_wait (req : List Tid) : ∀ (c : Choice) (s : IS), CovX cfg [] s →
    Always cfg p (CovX cfg []) (waitPrims cfg p req c s) s :=
  have serial : cfg.backend = .serial → ∀ ps s, CovX cfg [] s → Always cfg p (CovX cfg []) ps s :=
    fun hb ps s _ => always_Cov_serial hb [] ps s
  (Always.isSeq _).wait (fun hb => serial hb _) (fun hb s _ _ _ => serial hb _ s) (fun hb _ _ s => serial hb _ s)
    (fun _ _ s => always_Cov_mono [] _ s (forall_consume_dead rfl (fun _ => rfl)))
    (fun _ => always_Cov_startProcesses []) (fun _ => always_Cov_done req)

theorem always_Cov_cancel (s : IS) (h : CovX cfg [] s) :
    Always cfg p (CovX cfg []) (cancelPrims cfg s) s := by
  by_cases hb : cfg.backend = .serial
  · exact always_Cov_serial hb _ _ _
  · refine always_Cov_mono [] _ s (fun q hq => ?_) h
    rcases mem_cancelPrims hq with rfl | ⟨t, rfl⟩
    · simp [cancelPrims, hb] at hq
    · rfl

theorem Cov_walk (req : List Tid) : Walk cfg p req (Always cfg p (CovX cfg [])) :=
  Walk.ofAlways (fun s h _ => (Always.isSeq _).submit always_Cov_submitOne _ s h) (always_Cov_wait req)
    always_Cov_cancel
    (fun s => always_Cov_mono [] _ s (fun q hq => by obtain ⟨t, rfl⟩ := mem_stopPrims hq; rfl))

theorem always_Cov_handler (req : List Tid) (ds : List Choice) (s : IS) (h : CovX cfg [] s) :
    Always cfg p (CovX cfg []) (handlerPrims cfg p req ds s) s :=
  (Cov_walk req).handler ds s h

theorem Cov_init (store : Store) (fuel : Nat) : CovX cfg [] (initIS cfg p store fuel) := by
  intro _ _ t ht
  simp [initIS, initRS] at ht

/-- at every interrupt instant, every tracked future is cancelled, done, a zombie, running or queued -/
theorem stateAt_Cov (store : Store) (fuel : Nat) (sched : List Choice) (k : Nat) :
    CovX cfg [] (stateAt cfg p store fuel sched k) :=
  (Cov_walk (reqTids p)).stateAt (Cov_init store fuel) sched k

end Lt
