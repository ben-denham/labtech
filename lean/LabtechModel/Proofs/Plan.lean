import LabtechModel.Model.Run
namespace Lt

/-- structural invariant of the planning dictionaries -/
structure PI (s : TS) : Prop where
  pdEq : ∀ t, s.pendDeps t = s.ddeps t
  dual : ∀ d t, t ∈ s.pendDependents d ↔ d ∈ s.ddeps t
  depPend : ∀ t d, d ∈ s.ddeps t → t ∈ s.pending
  nodupP : s.pending.Nodup
  nodupD : ∀ t, (s.ddeps t).Nodup
  nodupDt : ∀ d, (s.pendDependents d).Nodup

theorem sadd_mem (l : List Nat) (x y : Nat) : y ∈ sadd l x ↔ y ∈ l ∨ y = x := by
  simp only [sadd]; split <;> simp <;> grind

theorem nodup_snoc {l : List Nat} {t : Nat} (h : l.Nodup) (ht : t ∉ l) : (l ++ [t]).Nodup := by
  rw [List.nodup_append]
  refine ⟨h, by simp, ?_⟩
  intro a ha b hb
  simp only [List.mem_singleton] at hb
  subst hb
  intro hab; subst hab
  exact ht ha

theorem sadd_nodup (l : List Nat) (x : Nat) (h : l.Nodup) : (sadd l x).Nodup := by
  simp only [sadd]; split
  · exact h
  · next hx => exact nodup_snoc h hx

theorem insertDeps_PI (t : Tid) : ∀ (ds : List Tid) (s : TS), PI s → t ∈ s.pending → PI (insertDeps t ds s) := by
  intro ds
  induction ds with
  | nil => intro s h _; exact h
  | cons d ds ih =>
    intro s h ht
    refine ih _ ?_ ht
    constructor
    · intro x; simp only [upd]; split
      · next hx => subst hx; rw [h.pdEq]
      · exact h.pdEq x
    · intro d' t'
      simp only [upd]
      have := h.dual d' t'
      by_cases h1 : d' = d <;> by_cases h2 : t' = t <;> simp [h1, h2, sadd_mem] <;> grind
    · intro t' d'; simp only [upd]; split
      · next hx => subst hx; intro _; exact ht
      · exact h.depPend t' d'
    · exact h.nodupP
    · intro x; simp only [upd]; split
      · next hx => subst hx; exact sadd_nodup _ _ (h.nodupD _)
      · exact h.nodupD x
    · intro x; simp only [upd]; split
      · next hx => subst hx; exact sadd_nodup _ _ (h.nodupDt _)
      · exact h.nodupDt x

/-- `insert_task` keeps `PI`; which object is recorded and what was processed plays no role -/
theorem insertTask_PI (i : Iid) (t : Tid) (deps : List Tid) (s : TS) (proc : List Iid) (h : PI s) :
    PI (insertTask i t deps { s with processed := proc }) :=
  insertDeps_PI t deps _
    ⟨h.pdEq, h.dual, fun t' d' hd => (sadd_mem _ _ _).mpr (Or.inl (h.depPend t' d' hd)),
      sadd_nodup _ _ h.nodupP, h.nodupD, h.nodupDt⟩
    ((sadd_mem _ _ _).mpr (Or.inr rfl))

theorem insertDeps_eff (t : Tid) : ∀ (ds : List Tid) (s : TS),
    (insertDeps t ds s).pending = s.pending ∧ (insertDeps t ds s).instances = s.instances ∧
    (insertDeps t ds s).processed = s.processed ∧ (insertDeps t ds s).active = s.active ∧
    ∀ t', (insertDeps t ds s).ddeps t' = if t' = t then ds.foldl sadd (s.ddeps t) else s.ddeps t' := by
  intro ds
  induction ds with
  | nil => intro s; refine ⟨rfl, rfl, rfl, rfl, ?_⟩; intro t'; simp [insertDeps]; intro h; rw [h]
  | cons d ds ih =>
    intro s
    simp only [insertDeps]
    obtain ⟨a, b, c, f, e⟩ := ih { s with
        ddeps := upd s.ddeps t (sadd (s.ddeps t) d)
        pendDeps := upd s.pendDeps t (sadd (s.pendDeps t) d)
        pendDependents := upd s.pendDependents d (sadd (s.pendDependents d) t) }
    refine ⟨a, b, c, f, ?_⟩
    intro t'
    rw [e]
    by_cases h : t' = t <;> simp [h, upd]

variable (p : Problem) (uc : Tid → Bool)

/-- the dependency objects planning follows from object `i`: none if its task will be loaded from the cache -/
def depInstsOf (p : Problem) (uc : Tid → Bool) (i : Iid) : List Iid :=
  if uc (p.tidOf i) then [] else p.children i

/-- `s1` is `s` after processing the not yet processed object `i` -/
structure Step (p : Problem) (uc : Tid → Bool) (i : Iid) (s s1 : TS) : Prop where
  pend : s1.pending = sadd s.pending (p.tidOf i)
  inst : ∀ t', s1.instances t' =
    if t' = p.tidOf i then s.instances (p.tidOf i) ++ [i] else s.instances t'
  proc : s1.processed = s.processed ++ [i]
  dd : ∀ t', s1.ddeps t' =
    if t' = p.tidOf i then
      (dedup ((depInstsOf p uc i).map p.tidOf)).foldl sadd (s.ddeps (p.tidOf i))
    else s.ddeps t'
  act : s1.active = s.active
  pi : PI s → PI s1

theorem step_mk (i : Iid) (s : TS) :
    Step p uc i s (insertTask i (p.tidOf i) (dedup ((depInstsOf p uc i).map p.tidOf))
      { s with processed := s.processed ++ [i] }) := by
  obtain ⟨a, b, c, f, e⟩ := insertDeps_eff (p.tidOf i) (dedup ((depInstsOf p uc i).map p.tidOf))
    { s with processed := s.processed ++ [i], pending := sadd s.pending (p.tidOf i),
             instances := upd s.instances (p.tidOf i) (s.instances (p.tidOf i) ++ [i]) }
  exact ⟨a, fun t' => congrFun b t', c, e, f,
    insertTask_PI _ _ _ s _⟩

theorem processLevel_cons_new (i : Iid) (is : List Iid) (s : TS)
    (acc : List Iid) (h : i ∉ s.processed) :
    processLevel p uc (i :: is) s acc =
      processLevel p uc is (insertTask i (p.tidOf i) (dedup ((depInstsOf p uc i).map p.tidOf))
        { s with processed := s.processed ++ [i] }) (acc ++ depInstsOf p uc i) := by
  simp only [processLevel, depInstsOf, h, if_false]

theorem processLevel_cons_old (i : Iid) (is : List Iid) (s : TS)
    (acc : List Iid) (h : i ∈ s.processed) :
    processLevel p uc (i :: is) s acc = processLevel p uc is s acc := by
  simp only [processLevel, h, if_true]

theorem processLevel_ind (Q : List Iid → TS → List Iid → Prop)
    (hold : ∀ i is s acc, i ∈ s.processed → Q (i :: is) s acc → Q is s acc)
    (hnew : ∀ i is s s1 acc, i ∉ s.processed → Step p uc i s s1 → Q (i :: is) s acc →
      Q is s1 (acc ++ depInstsOf p uc i)) :
    ∀ (l : List Iid) (s : TS) (acc : List Iid), Q l s acc →
      Q [] (processLevel p uc l s acc).1 (processLevel p uc l s acc).2 := by
  intro l
  induction l with
  | nil => intro s acc h; simpa [processLevel] using h
  | cons i is ih =>
    intro s acc h
    by_cases hi : i ∈ s.processed
    · rw [processLevel_cons_old p uc i is s acc hi]
      exact ih s acc (hold i is s acc hi h)
    · rw [processLevel_cons_new p uc i is s acc hi]
      exact ih _ _ (hnew i is s _ acc hi (step_mk p uc i s) h)

theorem processTasks_ind (Q : TS → Prop)
    (hnew : ∀ i s s1, i ∉ s.processed → Step p uc i s s1 → Q s → Q s1) :
    ∀ (fuel : Nat) (l : List Iid) (s : TS), Q s → Q (processTasks p uc fuel l s) := by
  have hl : ∀ (l : List Iid) (s : TS) (acc : List Iid), Q s → Q (processLevel p uc l s acc).1 :=
    processLevel_ind p uc (fun _ s _ => Q s) (fun _ _ _ _ _ h => h)
      (fun i _ s s1 _ hi hs h => hnew i s s1 hi hs h)
  intro fuel
  induction fuel with
  | zero => intro l s h; simpa [processTasks] using h
  | succ n ih =>
    intro l s h
    simp only [processTasks]
    have := hl l s [] h
    split
    · exact this
    · exact ih _ _ this

theorem plan_active (cfg : Config) (p : Problem) (store : Store) (fuel : Nat) :
    (plan cfg p store fuel).active = [] :=
  processTasks_ind p _ (fun s => s.active = []) (fun _ _ _ _ hs h => hs.act.trans h) fuel _ _ rfl

theorem plan_PI (cfg : Config) (p : Problem) (store : Store) (fuel : Nat) :
    PI (plan cfg p store fuel) :=
  processTasks_ind p _ PI (fun _ _ _ _ hs h => hs.pi h) fuel _ _ (by constructor <;> simp)

end Lt
