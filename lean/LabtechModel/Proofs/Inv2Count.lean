import LabtechModel.Proofs.Inv2Flag
/-!
# C05: the counting equation at resting points, maximality of the active set
-/
namespace Lt
variable (cfg : Config) (p : Problem) (store : Store) (fuel : Nat) (sched : List Choice) (obj : Tid → Iid)

def evStartTid : Ev → Option Tid
  | .start t => some t
  | _ => none

/-- the tasks whose execution was started (a worker process launched / the serial runner began
    running it), in order -/
def startedOf (tr : List Ev) : List Tid := tr.filterMap evStartTid

theorem startedOf_append (a b : List Ev) : startedOf (a ++ b) = startedOf a ++ startedOf b := by
  simp [startedOf, List.filterMap_append]

theorem processYield_started (req : List Tid) (rs : RS) (t : Tid) (o : Outcome) :
    startedOf (processYield cfg req rs t o).trace = startedOf rs.trace := by
  obtain ⟨tail, htr, htail⟩ := processYield_trace cfg req rs t o
  rw [htr, startedOf_append]
  have : startedOf (Ev.yield t o :: tail) = [] := filterMap_none _ _ (by
    intro e he
    rcases List.mem_cons.mp he with h | h
    · subst h; rfl
    · obtain ⟨a, b, rfl⟩ := htail e h; rfl)
  rw [this, List.append_nil]

theorem startedOf_runEvents (ts : TS) (j : Job) : startedOf (runEvents p ts j) = [] := by
  simp only [runEvents]
  split <;> simp [startedOf, evStartTid]

/-- one serial `wait` starts exactly the head of the deque, or nothing when the deque is empty -/
theorem waitSerial_started (req : List Tid) (rs : RS) :
    startedOf (waitSerial cfg p req rs).trace =
      startedOf rs.trace ++ (rs.queued.take 1).map Job.tid := by
  cases hq : rs.queued with
  | nil =>
    rw [waitSerial_nil cfg p req rs hq]
    simp [startedOf]
    rfl
  | cons j rest =>
    rw [waitSerial_cons cfg p req rs j rest hq, processYield_started]
    show startedOf (serialPre p rs j rest).trace = _
    rw [serialPre_trace, startedOf_append]
    congr 1
    simp only [serialEvs]
    rw [startedOf_append, startedOf_runEvents]
    rfl

/-- the resting point of a loop head: the state after its submit phase, right before `runner.wait` -/
abbrev restState (cfg : Config) (p : Problem) (store : Store) (fuel : Nat) (sched : List Choice) : RS :=
  submitAll cfg p (readyTasks p (loopHead cfg p store fuel sched).ts) (loopHead cfg p store fuel sched)

/-- futures, active tasks and executor entries are equinumerous -/
theorem rest_lengths {cfg : Config} {p : Problem} {P : TS} {rs : RS} (hc : Core p P rs) (he : Exec cfg P [] rs) :
    rs.queued.length + rs.running.length = rs.ts.active.length := by
  have h1 := he.perm.length_eq
  have h2 := ((List.perm_ext_iff_of_nodup hc.ndF hc.ts.ndA).mpr hc.futsAct).length_eq
  simp only [List.append_nil, List.length_map, List.length_append] at h1
  omega

theorem count_process {cfg : Config} {p : Problem} {P : TS} {rs : RS} (hc : Core p P rs) (he : Exec cfg P [] rs)
    (hw : WorkersOK cfg rs) (hn : NoIdle cfg rs) :
    rs.running.length = min cfg.maxWorkers rs.ts.active.length ∧
    rs.queued.length = rs.ts.active.length - rs.running.length := by
  have hlen := rest_lengths hc he
  unfold WorkersOK at hw
  rcases hn with hq | hfull
  · have hq' : rs.queued.length = 0 := by rw [hq]; rfl
    omega
  · omega

/-- process backends, at a resting point: executing = min(max_workers, active), the rest is queued -/
theorem rest_count_process
    (hb : cfg.backend ≠ .serial) (hrun : (loopHead cfg p store fuel sched).status = .running) :
    (restState cfg p store fuel sched).running.length
      = min cfg.maxWorkers (restState cfg p store fuel sched).ts.active.length ∧
    (restState cfg p store fuel sched).queued.length
      = (restState cfg p store fuel sched).ts.active.length - (restState cfg p store fuel sched).running.length := by
  have hl := loopHead_live cfg p store fuel sched
  obtain ⟨hc, he, _⟩ := submitPhase_reach (plan_PI cfg p store fuel) hl.reach hrun
  exact count_process hc he (submitAll_workers cfg p _ _ hl.workers)
    (submitAll_noIdle cfg p hb _ _ hl.workers (hl.noIdle hb))

/-- serial backend, at a resting point: nothing runs in a worker, every active task sits in the deque -/
theorem rest_count_serial
    (hb : cfg.backend = .serial) (hrun : (loopHead cfg p store fuel sched).status = .running) :
    (restState cfg p store fuel sched).running = [] ∧
    (restState cfg p store fuel sched).queued.length = (restState cfg p store fuel sched).ts.active.length := by
  have hl := loopHead_live cfg p store fuel sched
  obtain ⟨hc, he, _⟩ := submitPhase_reach (plan_PI cfg p store fuel) hl.reach hrun
  have hlen := rest_lengths hc he
  have hr := he.serialRun hb
  refine ⟨hr, ?_⟩
  rw [hr] at hlen
  simpa using hlen

/-- a set of tasks that may be in flight together: all their dependencies are finished and no type
    exceeds its `max_parallel` -/
def Admissible (p : Problem) (P : TS) (Y : List Tid) (A : List Tid) : Prop :=
  (∀ t ∈ A, ∀ d ∈ P.ddeps t, d ∈ Y) ∧ LimitOK p A

theorem loopHead_limit :
    LimitOK p (loopHead cfg p store fuel sched).ts.active :=
  runLoop_limit cfg p _ sched _ (fun T L _ => by simp [initRS, plan_active, typeCount])

end Lt
