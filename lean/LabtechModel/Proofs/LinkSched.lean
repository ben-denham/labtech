import LabtechModel.Proofs.LinkSpec
/-!
# Link scheduler model ↔ history model, part 3: every schedule computes what `labRun` computes

`specRun_agrees_with_scheduler` (specification map) and `labRun_agrees_with_scheduler_disk` (key
directories, under `KeyInj` + `Wf`): for the scheduler problem `toProblem U mp g fl req`, every
backend, every `max_workers ≥ 1`, all positive per-type limits `mp`, every fair schedule that is long
enough, `continue_on_failure` (the history model's Lab), and the scheduler store that holds the values
of the map / disk pre-state:
* the final scheduler store, read as a map tid ↦ value, is the value part of the map the history model's
  run step produces (same keys present, same values; an entry that was loaded, or whose execution
  failed, or that is outside the plan, is the pre-state entry);
* `run_tasks` returns what the history model returns (`returnedA`, request de-duplicated as the
  returned `dict` does);
* `run()` is executed (an `exec` worker record exists) for exactly the history model's `execd`,
  and a `load` record exists for exactly its `loaded`.
What is NOT linked: the start/duration metadata (the scheduler model carries values only; the
history model's entries carry `metaStart g t`, `metaDur g t`, characterised in `Props/C08.lean`),
and the *order* of `execd` (dependency-first in the history model, schedule-dependent in the
scheduler; linked as sets).
-/
namespace Lt.Link
open Lt

section main
variable (U : Store.Universe) (mp : Nat → Option Nat) (g : Nat) (fl req : List Tid) (hU : UOK U req)
  (cfg : Config) (m : Store.AMap) (st : Store) (hrel : StoreRel m st) (hmap : MapOK U m) (fuel : Nat)
include hU hrel hmap

/-- the scheduler's plan (`TaskState.process_tasks`) is the history model's needed list (as sets; both
    are duplicate-free) -/
theorem planned_iff (hF : ∀ t ∈ req, t < fuel) (t : Tid) :
    t ∈ (plan cfg (toProblem U mp g fl req) st fuel).pending ↔
      t ∈ Store.neededFrom U (fun t => !cfg.bust && (m t).isSome) req := by
  have H := toProblem_refHypF U mp g fl req hU
  rw [show (fun t => !cfg.bust && (m t).isSome) = useCache cfg (toProblem U mp g fl req) st from
    (funext (ucOf_eq U mp g fl req cfg m st hrel hmap)).symm, mem_neededFrom U _ req hU, ← neededObj_iff]
  constructor
  · intro h
    obtain ⟨i, hi, hti⟩ := plan_pending_needed cfg _ st fuel t h
    have : i = t := hti
    subst this; exact hi
  · exact needed_planned cfg _ st fuel H.acyc H.inst ((toProblem_fuelOK U mp g fl req fuel).mpr hF) t

theorem specRun_agrees_with_scheduler (hcf : cfg.contOnFail = true) (hF : ∀ t ∈ req, t < fuel)
    (hL : 0 < cfg.maxWorkers ∧ ∀ T L, mp T = some L → 0 < L)
    (sched : List Choice) (hfair : Fair sched)
    (hlen : (Store.neededFrom U (fun t => !cfg.bust && (m t).isSome) req).length + 1 ≤ sched.length) :
    (∀ t, lookup t (run cfg (toProblem U mp g fl req) st fuel sched).store =
      ((Store.specRun U cfg.bust g fl req m).map t).map (fun s => s.val)) ∧
    (run cfg (toProblem U mp g fl req) st fuel sched).status =
      .returned (Store.returnedA (dedup req) (Store.specRun U cfg.bust g fl req m)) ∧
    (∀ t, (∃ seen, Ev.exec t seen ∈ (run cfg (toProblem U mp g fl req) st fuel sched).trace) ↔
      t ∈ (Store.specRun U cfg.bust g fl req m).execd) ∧
    (∀ t, Ev.load t ∈ (run cfg (toProblem U mp g fl req) st fuel sched).trace ↔
      t ∈ (Store.specRun U cfg.bust g fl req m).loaded.map Prod.fst) := by
  have H := toProblem_refHypF U mp g fl req hU
  have hcl := specRun_closed U mp g fl req cfg m st hU hrel hmap
  have hpl := planned_iff U mp g fl req hU cfg m st hrel hmap fuel hF
  replace hF := (toProblem_fuelOK U mp g fl req fuel).mpr hF
  have hlen' : (plan cfg (toProblem U mp g fl req) st fuel).pending.length + 1 ≤ sched.length := by
    rw [((List.perm_ext_iff_of_nodup (plan_PI cfg _ st fuel).nodupP
      ((neededFrom_spec U _ req hU).1.imp fun h => Nat.ne_of_lt h)).mpr hpl).length_eq]
    exact hlen
  have hucf := ucOf_eq U mp g fl req cfg m st hrel hmap
  have hret := Lt.Props.C10.unrelated_tasks_return_reference cfg _ st fuel sched id H hcf hF hL hfair hlen'
  have hreq : reqTids (toProblem U mp g fl req) = req := List.map_id req
  refine ⟨?_, ?_, ?_, ?_⟩
  · -- the store
    intro t
    rw [Lt.Props.C10.store_after_run cfg _ st fuel sched id H hcf hF hL hfair hlen' t, hcl, CF_map, cfMap_apply]
    simp only [storeAfter, hucf, toProblem_cacheable, hrel t]
    by_cases htl : t ∈ Store.neededFrom U (ucOf cfg m) req
    · rw [if_pos ((hpl t).mpr htl)]
      by_cases hc : ucOf cfg m t = false ∧ Store.persists U t = true
      · rw [if_pos hc, if_pos ⟨htl, hc⟩]
        show (match ref U mp g fl req cfg st t with | some v => some v | none => _) = _
        cases ref U mp g fl req cfg st t <;> simp [entryOf]
      · rw [if_neg hc, if_neg (fun h => hc h.2)]
    · rw [if_neg (fun h => htl ((hpl t).mp h)), if_neg (fun h => htl h.1)]
  · -- the returned dict
    rw [hret, hreq, hcl]
    congr 1
    apply filterMap_congr'
    intro t ht
    have htl : t ∈ Store.neededFrom U (ucOf cfg m) req :=
      (mem_neededFrom U _ req hU t).mpr (Needed.req ((mem_dedup _ _).mp ht))
    rw [CF_vals, lookupV_cfVals, if_pos htl]
    show (ref U mp g fl req cfg st t).map _ = _
    cases ref U mp g fl req cfg st t <;> rfl
  · -- executed
    intro t
    simp only [hcl, CF_execd, cfExecd, List.mem_reverse, List.mem_filter, Bool.not_eq_true']
    constructor
    · rintro ⟨seen, h⟩
      have := Lt.Props.C03.exec_implies_not_cached cfg _ st fuel sched t seen h
      exact ⟨(hpl t).mp this.2, by rw [← hucf]; exact this.1⟩
    · rintro ⟨h1, h2⟩
      exact ((Lt.Props.C03.loaded_iff_cached_beforehand cfg _ st fuel sched _ hret t ((hpl t).mpr h1)
        (toProblem_diesIn U mp g fl req cfg t)).2).mpr (by rw [hucf]; exact h2)
  · -- loaded
    intro t
    simp only [hcl, CF_loaded, cfLoaded, List.mem_map, List.mem_reverse, List.mem_filterMap]
    constructor
    · intro h
      have := Lt.Props.C03.load_implies_cached cfg _ st fuel sched t h
      have huc : ucOf cfg m t = true := by rw [← hucf]; exact this.1
      obtain ⟨s, hs⟩ : ∃ s, m t = some s := by
        simp only [ucOf, Bool.and_eq_true] at huc
        exact Option.isSome_iff_exists.mp huc.2
      exact ⟨(t, s), ⟨t, (hpl t).mp this.2, by simp [huc, hs]⟩, rfl⟩
    · rintro ⟨⟨t', s⟩, ⟨x, hx, hxs⟩, rfl⟩
      by_cases huc : ucOf cfg m x = true
      · rw [if_pos huc] at hxs
        cases hm : m x with
        | none => rw [hm] at hxs; simp at hxs
        | some s' =>
          rw [hm] at hxs
          simp only [Option.map_some, Option.some.injEq, Prod.mk.injEq] at hxs
          obtain ⟨rfl, _⟩ := hxs
          exact ((Lt.Props.C03.loaded_iff_cached_beforehand cfg _ st fuel sched _ hret x ((hpl x).mpr hx)
            (toProblem_diesIn U mp g fl req cfg x)).1).mpr (by rw [hucf]; exact huc)
      · rw [if_neg huc] at hxs; simp at hxs

/-- a task that has no result in this run (its execution failed, or it is not in the plan) keeps the
    entry it had: only a successful execution writes -/
theorem specRun_no_result_keeps_entry (t : Tid)
    (h : ∀ v, Store.lookupV t (Store.specRun U cfg.bust g fl req m).vals ≠ some (some v)) :
    (Store.specRun U cfg.bust g fl req m).map t = m t := by
  have hcl := specRun_closed U (fun _ => none) g fl req cfg m st hU hrel hmap
  rw [hcl, CF_vals] at h
  rw [hcl, CF_map, cfMap_apply]
  split
  · next hc =>
    rw [lookupV_cfVals, if_pos hc.1] at h
    cases hr : ref U (fun _ => none) g fl req cfg st t with
    | none => rfl
    | some v => exact absurd (by rw [hr]) (h v)
  · rfl

end main

/-- the scheduler store that holds, for every task of the universe, the value a load returns -/
def diskStore (U : Store.Universe) (d : Store.Disk) : Store :=
  (List.range U.n).filterMap (fun t => (Store.cLoad U d t).map (fun s => (t, s.val)))

theorem lookup_filterMap {β : Type} (f : Tid → Option β) (v : β → Val) (t : Tid) (l : List Tid) :
    lookup t (l.filterMap fun x => (f x).map fun s => (x, v s)) = if t ∈ l then (f t).map v else none := by
  induction l with
  | nil => rfl
  | cons a l ih =>
    by_cases h : a = t <;> cases hf : f a <;> simp_all [lookup, eq_comm]

theorem cLoad_lt (U : Store.Universe) (hinj : Store.KeyInj U) (d : Store.Disk) (wf : Store.Wf U d)
    (t : Tid) (s : Store.Stored) (h : Store.cLoad U d t = some s) : t < U.n := by
  obtain ⟨-, e, he, -⟩ := Store.cLoad_eq_some.mp h
  exact wf.task hinj he ▸ wf.lt (Store.lookup_mem _ _ _ he)

theorem abs_mapOK (U : Store.Universe) (d : Store.Disk) : MapOK U (Store.abs U d) := by
  intro t h
  obtain ⟨s, hs⟩ := Option.isSome_iff_exists.mp h
  exact (Store.cLoad_eq_some.mp hs).1

theorem diskStore_rel (U : Store.Universe) (hinj : Store.KeyInj U) (d : Store.Disk) (wf : Store.Wf U d) :
    StoreRel (Store.abs U d) (diskStore U d) := by
  intro t
  rw [diskStore, lookup_filterMap]
  simp only [List.mem_range]
  split
  · rfl
  · next hlt =>
    cases hc : Store.cLoad U d t with
    | none => simp [Store.abs, hc]
    | some s => exact absurd (cLoad_lt U hinj d wf t s hc) hlt

/-- **scheduler ↔ history model, concrete disk**: the dependency-first `labRun` is a correct summary
    of what the scheduler does, for any schedule -/
theorem labRun_agrees_with_scheduler_disk (U : Store.Universe) (hinj : Store.KeyInj U)
    (mp : Nat → Option Nat) (g : Nat) (fl req : List Tid) (hU : UOK U req)
    (d : Store.Disk) (wf : Store.Wf U d)
    (cfg : Config) (hcf : cfg.contOnFail = true) (fuel : Nat) (hF : ∀ t ∈ req, t < fuel)
    (hL : 0 < cfg.maxWorkers ∧ ∀ T L, mp T = some L → 0 < L)
    (sched : List Choice) (hfair : Fair sched)
    (hlen : (Store.neededFrom U (fun t => !cfg.bust && Store.labIsCached U d t) req).length + 1 ≤ sched.length) :
    (∀ t, lookup t (run cfg (toProblem U mp g fl req) (diskStore U d) fuel sched).store =
      (Store.cLoad U (Store.labRun U cfg.bust g fl req d).disk t).map (fun s => s.val)) ∧
    (run cfg (toProblem U mp g fl req) (diskStore U d) fuel sched).status =
      .returned (Store.returned (dedup req) (Store.labRun U cfg.bust g fl req d)) ∧
    (∀ t, (∃ seen, Ev.exec t seen ∈ (run cfg (toProblem U mp g fl req) (diskStore U d) fuel sched).trace) ↔
      t ∈ (Store.labRun U cfg.bust g fl req d).execd) ∧
    (∀ t, Ev.load t ∈ (run cfg (toProblem U mp g fl req) (diskStore U d) fuel sched).trace ↔
      t ∈ (Store.labRun U cfg.bust g fl req d).loaded.map Prod.fst) := by
  have r := Store.run_refines U hinj cfg.bust g fl req d wf
  rw [Store.useCache_abs U d cfg.bust wf hinj] at hlen
  obtain ⟨h1, h2, h3, h4⟩ := specRun_agrees_with_scheduler U mp g fl req hU cfg (Store.abs U d) (diskStore U d)
    (diskStore_rel U hinj d wf) (abs_mapOK U d) fuel hcf hF hL sched hfair hlen
  refine ⟨?_, ?_, ?_, ?_⟩
  · intro t; rw [h1 t, ← r.map]; rfl
  · rw [h2]; simp only [Store.returned, Store.returnedA, r.vals]
  · intro t; rw [h3 t, r.execd]
  · intro t; rw [h4 t, r.loaded]

end Lt.Link
