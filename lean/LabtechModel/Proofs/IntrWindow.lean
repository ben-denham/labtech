import LabtechModel.Proofs.IntrLive
import LabtechModel.Proofs.IntrRefine
/-!
# M10: where `Tr` holds — exactly outside the start-and-track windows

The *window* is a decidable predicate of the executed prefix of the main stream (`inWindow`):
* `_start_processes` has executed `process.start()` for a future and has not yet deleted it from
  `_pending_future_to_thunk` (`procStart j … unregPending j`) — from `submit` AND from `wait`; or
* `submit_task(t)` is in progress (`enqueue t` executed, `regFuture t` not yet) and the worker of
  `t` itself has been started (`procStart t` since the `enqueue t`).
Outside the window `Tr` holds (`stateAt_Tr_outside`), in particular at every loop head (`mainEnd_Tr`,
`mainEnd_outside`); for process runners it fails inside (`stateAt_not_Tr_inside`).

`MI X`: the invariant of the main stream (process runners) between two bookkeeping blocks; `X` = the task
whose `submit_task` is in progress (its future is not in `future_to_task` yet).
`AlwaysW R`: `Always` for a predicate that also reads the window state, which follows the executed
primitives; `WinBlock`: a block that begins and ends outside the window with `MI []` and has `TrOut` (`Tr`
iff outside) after every prefix. It is a `BlockSeq` (`win_seq`), so the main stream comes from
`BlockSeq.main`. The serial runner has no worker processes (`Idle`).
-/
namespace Lt

variable {cfg : Config} {p : Problem}

structure WS where
  /-- `_start_processes`: a process was started whose future is still tracked as pending -/
  st : Option Tid
  /-- `submit_task(t)` in progress: after `enqueue t`, before `regFuture t` -/
  sub : Option Tid
  /-- the worker of `sub` has been started -/
  started : Bool
  deriving DecidableEq, Repr

def WS.init : WS := ⟨none, none, false⟩

def winStep (w : WS) : Prim → WS
  | .enqueue t => { w with sub := some t, started := false }
  | .procStart j => { w with st := some j, started := w.started || (w.sub == some j) }
  | .unregPending _ => { w with st := none }
  | .regFuture _ => { w with sub := none, started := false }
  | _ => w

def winOf (pre : List Prim) : WS := pre.foldl winStep WS.init

def WS.inside (w : WS) : Bool := w.st.isSome || w.started

/-- the executed prefix `pre` of the main stream ends inside a start-and-track window -/
def inWindow (pre : List Prim) : Bool := (winOf pre).inside

/-- primitives that do not move the window -/
def Prim.winNeutral : Prim → Bool
  | .enqueue _ | .procStart _ | .unregPending _ | .regFuture _ => false
  | _ => true

theorem winStep_neutral (w : WS) (q : Prim) (h : q.winNeutral = true) : winStep w q = w := by
  cases q <;> first | rfl | exact Bool.noConfusion h

theorem foldl_neutral (w : WS) : ∀ (ps : List Prim), (∀ q ∈ ps, q.winNeutral = true) →
    ps.foldl winStep w = w := by
  intro ps
  induction ps with
  | nil => intro _; rfl
  | cons q ps ih =>
    intro h
    rw [List.foldl_cons, winStep_neutral w q (h q List.mem_cons_self)]
    exact ih (fun q' hq' => h q' (List.mem_cons_of_mem _ hq'))

/-- `R w s` holds in `s` and after every prefix, `w` following the executed primitives -/
def AlwaysW (cfg : Config) (p : Problem) (R : WS → IS → Prop) : List Prim → WS → IS → Prop
  | [], w, s => R w s
  | q :: ps, w, s => R w s ∧ AlwaysW cfg p R ps (winStep w q) (applyPrim cfg p q s)

theorem AlwaysW.head {R : WS → IS → Prop} {ps : List Prim} {w : WS} {s : IS}
    (h : AlwaysW cfg p R ps w s) : R w s := by
  cases ps with
  | nil => exact h
  | cons q ps => exact h.1

theorem alwaysW_append {R : WS → IS → Prop} : ∀ (a b : List Prim) (w : WS) (s : IS),
    AlwaysW cfg p R (a ++ b) w s ↔
      AlwaysW cfg p R a w s ∧ AlwaysW cfg p R b (a.foldl winStep w) (runPrims cfg p a s) := by
  intro a
  induction a with
  | nil =>
    intro b w s
    simp only [List.nil_append, List.foldl_nil, runPrims_nil, AlwaysW]
    exact ⟨fun h => ⟨h.head, h⟩, fun h => h.2⟩
  | cons q a ih =>
    intro b w s
    simp only [List.cons_append, AlwaysW, List.foldl_cons, runPrims_cons, ih]
    exact ⟨fun h => ⟨⟨h.1, h.2.1⟩, h.2.2⟩, fun h => ⟨h.1.1, h.1.2, h.2⟩⟩

theorem AlwaysW.prefix {R : WS → IS → Prop} : ∀ {ps : List Prim} {w : WS} {s : IS},
    AlwaysW cfg p R ps w s → ∀ k, R ((ps.take k).foldl winStep w) (runPrims cfg p (ps.take k) s) := by
  intro ps
  induction ps with
  | nil => intro w s h k; simp only [List.take_nil, List.foldl_nil, runPrims_nil]; exact h
  | cons q ps ih =>
    intro w s h k
    cases k with
    | zero => exact h.1
    | succ k => exact ih h.2 k

theorem AlwaysW.last {R : WS → IS → Prop} {ps : List Prim} {w : WS} {s : IS} (h : AlwaysW cfg p R ps w s) :
    R (ps.foldl winStep w) (runPrims cfg p ps s) := by
  simpa using h.prefix ps.length

theorem alwaysW_neutral {R : WS → IS → Prop} (w : WS) : ∀ (ps : List Prim) (s : IS),
    (∀ q ∈ ps, q.winNeutral = true) → Always cfg p (R w) ps s → AlwaysW cfg p R ps w s := by
  intro ps
  induction ps with
  | nil => intro s _ h; exact h
  | cons q ps ih =>
    intro s hq h
    refine ⟨h.1, ?_⟩
    rw [winStep_neutral w q (hq q List.mem_cons_self)]
    exact ih _ (fun q' hq' => hq q' (List.mem_cons_of_mem _ hq')) h.2

/-- where a future can be: its worker in the running map, pending in the executor, found dead, or done -/
def places (s : IS) : List Tid :=
  s.rs.running.map Job.tid ++ s.rs.queued.map Job.tid ++ s.zombies ++ s.done.map (·.1)

structure MI (X : List Tid) (s : IS) : Prop where
  aliveRun : ∀ t ∈ s.alive, t ∈ s.rs.running.map Job.tid
  /-- a running or pending future is tracked, or is the one being submitted -/
  tracked : ∀ t, t ∈ s.rs.running.map Job.tid ∨ t ∈ s.rs.queued.map Job.tid → t ∈ s.rs.futs ∨ t ∈ X
  /-- a future that ended is tracked until it is popped -/
  ended : ∀ t, t ∈ s.zombies ∨ t ∈ s.done.map (·.1) → t ∈ s.rs.futs
  noCanc : s.cancelled = []
  /-- a future is in one place only -/
  one : (places s).Nodup

theorem MI.count_le {X : List Tid} {s : IS} (h : MI X s) (t : Tid) :
    (s.rs.running.map Job.tid).count t + (s.rs.queued.map Job.tid).count t + s.zombies.count t +
      (s.done.map (·.1)).count t ≤ 1 := by
  have := List.nodup_iff_count.mp h.one t
  simpa only [places, List.count_append] using this

theorem one_of_count {s : IS} (h : ∀ t, (s.rs.running.map Job.tid).count t + (s.rs.queued.map Job.tid).count t +
    s.zombies.count t + (s.done.map (·.1)).count t ≤ 1) : (places s).Nodup :=
  List.nodup_iff_count.mpr (fun t => by simpa only [places, List.count_append] using h t)

theorem MI.queuedNotRun {X : List Tid} {s : IS} (h : MI X s) :
    ∀ j ∈ s.rs.queued, j.tid ∉ s.rs.running.map Job.tid := fun j hj hr => by
  have := h.count_le j.tid
  have := List.count_pos_iff.mpr hr
  have := List.count_pos_iff.mpr (List.mem_map_of_mem (f := Job.tid) hj)
  omega

theorem MI.tr {X : List Tid} {s : IS} (h : MI X s) (hb : cfg.backend ≠ .serial)
    (hX : ∀ j ∈ s.rs.running, j.tid ∉ X) : Tr cfg s := by
  have pos : ∀ j ∈ s.rs.running, 0 < (s.rs.running.map Job.tid).count j.tid :=
    fun j hj => List.count_pos_iff.mpr (List.mem_map_of_mem hj)
  exact {
    aliveRun := h.aliveRun
    runFut := fun j hj => (h.tracked _ (Or.inl (List.mem_map_of_mem hj))).resolve_right (hX j hj)
    runNotCanc := fun j _ => by rw [h.noCanc]; simp
    runNotDone := fun j hj hd => by
      have := h.count_le j.tid; have := pos j hj; have := List.count_pos_iff.mpr hd; omega
    runNd := List.nodup_iff_count.mpr (fun t => by have := h.count_le t; omega)
    runNotZomb := fun j hj hz => by
      have := h.count_le j.tid; have := pos j hj; have := List.count_pos_iff.mpr hz; omega
    queuedNotRun := h.queuedNotRun
    serial := fun hs => absurd hs hb }

theorem MI_untouched (X : List Tid) (q : Prim) (s : IS) (hq : q.touchesExec = false) (h : MI X s) :
    MI X (applyPrim cfg p q s) := by
  obtain ⟨h1, h2, h3, h4, h5, h6, h7, _⟩ := applyPrim_exec q s hq
  exact ⟨by rw [h1, h2]; exact h.aliveRun, by rw [h1, h7, h3]; exact h.tracked, by rw [h5, h6, h3]; exact h.ended,
    by rw [h4]; exact h.noCanc, by rw [places, h1, h5, h6, h7]; exact h.one⟩

theorem selN_count {α β} [BEq β] (f : Nat → Bool) (g : α → β) (b : β) : ∀ (l : List α) (n : Nat),
    ((selN f n l).map g).count b + ((selN (fun i => !f i) n l).map g).count b = (l.map g).count b := by
  intro l
  induction l with
  | nil => intro n; simp [selN, enumFrom]
  | cons x xs ih =>
    intro n
    have := ih (n + 1)
    rw [selN_cons, selN_cons]
    cases f n <;> simp [List.count_cons] <;> omega

/-- the workers that report go from the running map to the done futures or to the zombies -/
theorem MI_consume (c : Choice) (s : IS) (h : MI [] s) :
    MI [] (applyPrim cfg p (Prim.consumeResults c) s) := by
  by_cases hrun : s.rs.status = .running
  case neg => rw [applyPrim_stopped _ _ hrun]; exact h
  rw [applyPrim_running _ _ hrun]
  have hfin : ∀ j ∈ finOf c s.rs.running, j.tid ∈ s.rs.futs := fun j hj => by
    simpa using h.tracked _ (Or.inl (List.mem_map_of_mem ((selN_sublist c.finish s.rs.running 0).subset hj)))
  have hnc : ((finOf c s.rs.running).filter (fun j => !p.dies j.tid)).filter (fun j => j.tid ∉ s.cancelled)
      = (finOf c s.rs.running).filter (fun j => !p.dies j.tid) := by
    rw [h.noCanc]; simp
  have hm : ∀ l : List Job, (l.map (fun j => (j.tid, jobOutcome p s.rs.ts s.rs.store j))).map (·.1) =
      l.map Job.tid := fun l => by rw [List.map_map]; rfl
  exact {
    aliveRun := by
      intro t ht
      simp only [stepPrim, List.mem_filter, decide_eq_true_eq] at ht ⊢
      obtain ⟨j, hj, rfl⟩ := List.mem_map.mp (h.aliveRun t ht.1)
      rcases selN_split c.finish s.rs.running 0 j hj with hf | hs
      · exact absurd (List.mem_map.mpr ⟨j, hf, rfl⟩) ht.2
      · exact List.mem_map.mpr ⟨j, hs, rfl⟩
    tracked := fun t ht => h.tracked t (ht.imp_left
      (fun ht => (List.Sublist.map _ (selN_sublist (fun i => !c.finish i) s.rs.running 0)).subset ht))
    ended := by
      intro t ht
      have hnew : ∀ q : Job → Bool, t ∈ ((finOf c s.rs.running).filter q).map Job.tid → t ∈ s.rs.futs := by
        intro q ht
        obtain ⟨j, hj, rfl⟩ := List.mem_map.mp ht
        exact hfin j (List.mem_filter.mp hj).1
      simp only [stepPrim, hnc, List.map_append, List.mem_append, hm] at ht
      rcases ht with (ht | ht) | ht | ht
      · exact h.ended t (Or.inl ht)
      · exact hnew _ ht
      · exact h.ended t (Or.inr ht)
      · exact hnew _ ht
    noCanc := h.noCanc
    one := one_of_count (fun t => by
      have h1 := h.count_le t
      have h2 : ((finOf c s.rs.running).map Job.tid).count t + ((stayOf c s.rs.running).map Job.tid).count t =
          (s.rs.running.map Job.tid).count t := selN_count c.finish Job.tid t s.rs.running 0
      have h3 := ((List.filter_append_perm (fun j => p.dies j.tid) (finOf c s.rs.running)).map Job.tid).count_eq t
      simp only [stepPrim, hnc, List.map_append, List.count_append, hm] at h3 ⊢
      omega) }

theorem MI_markDead (X : List Tid) (u : Tid) (s : IS) (h : MI X s) :
    MI X (applyPrim cfg p (Prim.markDead u) s) := by
  by_cases hrun : s.rs.status = .running
  · rw [applyPrim_running _ _ hrun]
    simp only [stepPrim]
    split
    · next hz =>
      have hnc : u ∉ s.cancelled := by rw [h.noCanc]; simp
      simp only [hnc, if_false]
      exact {
        aliveRun := h.aliveRun
        tracked := h.tracked
        ended := by
          intro t ht
          simp only [List.map_append, List.mem_append, List.map_cons, List.map_nil, List.mem_singleton] at ht
          rcases ht with ht | ht | rfl
          · exact h.ended t (Or.inl (List.mem_of_mem_erase ht))
          · exact h.ended t (Or.inr ht)
          · exact h.ended t (Or.inl hz)
        noCanc := h.noCanc
        one := one_of_count (fun t => by
          have h1 := h.count_le t
          have h2 := List.count_pos_iff.mpr hz
          simp only [List.map_append, List.count_append, List.map_cons, List.map_nil, List.count_singleton,
            List.count_erase]
          by_cases e : u = t
          · subst e; simp; omega
          · simp [e]; omega) }
    · exact h
  · rw [applyPrim_stopped _ _ hrun]; exact h

theorem MI_popFuture (X : List Tid) (t : Tid) (o : Option Outcome) (s : IS) (h : MI X s)
    (hd : t ∈ s.done.map (·.1)) : MI X (applyPrim cfg p (Prim.popFuture t o) s) := by
  by_cases hrun : s.rs.status = .running
  · rw [applyPrim_running _ _ hrun]
    have htf : t ∈ s.rs.futs := h.ended t (Or.inr hd)
    simp only [stepPrim, htf, if_true]
    have hdt := List.count_pos_iff.mpr hd
    have hsub : ((s.done.filter (fun x => x.1 ≠ t)).map (·.1)).Sublist (s.done.map (·.1)) :=
      List.filter_sublist.map _
    have hkeep : ∀ x, x ∈ s.rs.futs → x ≠ t → x ∈ s.rs.futs.filter (· ≠ t) := by
      intro x hx hne; simp [hx, hne]
    exact {
      aliveRun := h.aliveRun
      tracked := fun x hx => (h.tracked x hx).imp_left (fun hf => hkeep x hf (fun e => by
        have := h.count_le t
        dsimp only at hx
        rcases hx with hx | hx <;> have := List.count_pos_iff.mpr (e ▸ hx) <;> omega))
      ended := by
        intro x hx
        dsimp only at hx
        refine hkeep x (h.ended x (hx.imp_right (fun hx => hsub.subset hx))) (fun e => ?_)
        rcases hx with hx | hx
        · have := h.count_le t; have := List.count_pos_iff.mpr (e ▸ hx); omega
        · obtain ⟨y, hy, rfl⟩ := List.mem_map.mp hx
          exact absurd e (by simpa using (List.mem_filter.mp hy).2)
      noCanc := h.noCanc
      one := one_of_count (fun x => by
        have := h.count_le x; have := hsub.count_le x; dsimp only; omega) }
  · rw [applyPrim_stopped _ _ hrun]; exact h

/-- one round of `_start_processes`' loop, for the oldest pending future -/
theorem MI_triple (X : List Tid) (j : Job) (l : List Job) (s : IS) (hrun : s.rs.status = .running)
    (hq : s.rs.queued = j :: l) (h : MI X s) :
    MI X (runPrims cfg p [Prim.procStart j.tid, Prim.regRunning j.tid, Prim.unregPending j.tid] s) ∧
    (runPrims cfg p [Prim.procStart j.tid, Prim.regRunning j.tid, Prim.unregPending j.tid] s).rs.queued = l ∧
    (runPrims cfg p [Prim.procStart j.tid, Prim.regRunning j.tid, Prim.unregPending j.tid] s).rs.status = .running ∧
    (runPrims cfg p [Prim.procStart j.tid, Prim.regRunning j.tid, Prim.unregPending j.tid] s).rs.running =
      s.rs.running ++ [forkSnap cfg s.rs.results j] ∧
    (runPrims cfg p [Prim.procStart j.tid, Prim.regRunning j.tid, Prim.unregPending j.tid] s).rs.futs = s.rs.futs := by
  have hsp : [Prim.procStart j.tid, Prim.regRunning j.tid, Prim.unregPending j.tid] = startPrims [j] := by
    simp [startPrims]
  rw [hsp, startPrims_run [j] s l hrun (by rw [hq]; rfl)]
  refine ⟨?_, rfl, hrun, by simp, rfl⟩
  have hjq : j.tid ∈ s.rs.queued.map Job.tid := by rw [hq]; simp
  exact {
    aliveRun := by
      intro t ht
      simp only [List.map_cons, List.map_nil, List.mem_append, List.mem_singleton, List.map_append,
        forkSnap_tid] at ht ⊢
      exact ht.imp_left (h.aliveRun t)
    tracked := by
      intro t ht
      simp only [List.map_cons, List.map_nil, List.mem_append, List.mem_singleton, List.map_append,
        forkSnap_tid] at ht
      rcases ht with (ht | rfl) | ht
      · exact h.tracked t (Or.inl ht)
      · exact h.tracked _ (Or.inr hjq)
      · exact h.tracked t (Or.inr (by rw [hq]; exact List.mem_cons_of_mem _ ht))
    ended := h.ended
    noCanc := h.noCanc
    one := one_of_count (fun t => by
      have := h.count_le t
      simp only [hq, List.map_cons, List.map_nil, List.map_append, List.count_append, List.count_cons,
        List.count_nil, forkSnap_tid] at this ⊢
      omega) }

theorem MI_enqueue (t : Tid) (s : IS) (hrun : s.rs.status = .running) (h : MI [] s) (htf : t ∉ s.rs.futs) :
    MI [t] (applyPrim cfg p (Prim.enqueue t) s) := by
  rw [applyPrim_running _ _ hrun]
  simp only [stepPrim]
  exact {
    aliveRun := h.aliveRun
    tracked := by
      intro x hx
      simp only [List.map_append, List.mem_append, List.map_cons, List.map_nil, List.mem_singleton] at hx
      rcases hx with hx | hx | rfl
      · exact (h.tracked x (Or.inl hx)).imp_right (by simp)
      · exact (h.tracked x (Or.inr hx)).imp_right (by simp)
      · exact Or.inr (by simp)
    ended := h.ended
    noCanc := h.noCanc
    one := one_of_count (fun x => by
      have := h.count_le x
      simp only [List.map_append, List.count_append, List.map_cons, List.map_nil, List.count_singleton]
      split
      · next e =>
        -- the future of `t` is nowhere yet: everything that is somewhere is tracked
        have e : t = x := by simpa [mkJob] using e
        subst e
        have z : ∀ l : List Tid, (∀ y ∈ l, y ∈ s.rs.futs) → l.count t = 0 :=
          fun l hl => List.count_eq_zero.mpr (fun hm => htf (hl t hm))
        rw [z _ (fun y hy => by simpa using h.tracked y (Or.inl hy)),
          z _ (fun y hy => by simpa using h.tracked y (Or.inr hy)),
          z _ (fun y hy => h.ended y (Or.inl hy)), z _ (fun y hy => h.ended y (Or.inr hy))]
        omega
      · omega) }

theorem MI_regFuture (t : Tid) (s : IS) (hrun : s.rs.status = .running) (h : MI [t] s) :
    MI [] (applyPrim cfg p (Prim.regFuture t) s) := by
  rw [applyPrim_running _ _ hrun]
  simp only [stepPrim]
  exact {
    aliveRun := h.aliveRun
    tracked := fun x hx => Or.inl (by simpa using h.tracked x hx)
    ended := fun x hx => List.mem_append_left _ (h.ended x hx)
    noCanc := h.noCanc
    one := h.one }

/-- what is proved of every prefix: outside the window `Tr` holds, inside it fails -/
def TrOut (cfg : Config) (w : WS) (s : IS) : Prop :=
  (w.inside = false → Tr cfg s) ∧ (w.inside = true → ¬ Tr cfg s)

theorem TrOut_of_MI (hb : cfg.backend ≠ .serial) {s : IS} (h : MI [] s) (w : WS) (hw : w.inside = false) :
    TrOut cfg w s :=
  ⟨fun _ => h.tr hb (fun _ _ => by simp), fun hi => by rw [hw] at hi; simp at hi⟩

theorem TrOut_inside {w : WS} {s : IS} (hw : w.inside = true) (h : ¬ Tr cfg s) : TrOut cfg w s :=
  ⟨fun hi => by rw [hw] at hi; simp at hi, fun _ => h⟩

/-- inside `_start_processes`' loop body `Tr` fails: right after `process.start()` the worker is alive
    but in no map; after the registration the future is pending and running at once -/
theorem not_Tr_in_triple (X : List Tid) (j : Job) (l : List Job) (s : IS) (hrun : s.rs.status = .running)
    (hq : s.rs.queued = j :: l) (h : MI X s) :
    ¬ Tr cfg (applyPrim cfg p (Prim.procStart j.tid) s) ∧
    ¬ Tr cfg (applyPrim cfg p (Prim.regRunning j.tid) (applyPrim cfg p (Prim.procStart j.tid) s)) := by
  have hjq : j ∈ s.rs.queued := by rw [hq]; exact List.mem_cons_self
  have hr1 : (applyPrim cfg p (Prim.procStart j.tid) s).rs.status = .running := by
    rw [applyPrim_status _ _ rfl]; exact hrun
  constructor
  · intro htr
    have := htr.aliveRun j.tid (by rw [applyPrim_running _ _ hrun]; simp [stepPrim])
    rw [applyPrim_running _ _ hrun] at this
    exact h.queuedNotRun j hjq this
  · intro htr
    have hfind : (applyPrim cfg p (Prim.procStart j.tid) s).rs.queued.find? (hasTid j.tid) = some j := by
      rw [applyPrim_queued _ _ rfl, hq]; simp [hasTid]
    have hq2 : (applyPrim cfg p (Prim.regRunning j.tid) (applyPrim cfg p (Prim.procStart j.tid) s)).rs.queued =
        s.rs.queued := by
      rw [applyPrim_queued _ _ rfl, applyPrim_queued _ _ rfl]
    have := htr.queuedNotRun j (by rw [hq2]; exact hjq)
    apply this
    rw [applyPrim_running _ _ hr1]
    simp only [stepPrim, hfind, List.map_append, List.mem_append, List.map_cons, List.map_nil,
      List.mem_singleton, forkSnap_tid]
    exact Or.inr trivial

/-- the worker of the task being submitted (`sub`) is in the running map -/
def startedIn (sub : Option Tid) (s : IS) : Bool := s.rs.running.any (fun j => sub == some j.tid)

theorem startedIn_none (s : IS) : startedIn none s = false := by
  simp [startedIn]

/-- between two rounds of `_start_processes`' loop, `submit_task(sub)` in progress: `Tr` holds unless the
    worker of `sub` has been started, whose future is not in `future_to_task` yet -/
theorem TrOut_between (hb : cfg.backend ≠ .serial) {sub : Option Tid} {s : IS} (h : MI sub.toList s)
    (hsf : ∀ x, sub = some x → x ∉ s.rs.futs) : TrOut cfg ⟨none, sub, startedIn sub s⟩ s := by
  constructor
  · intro hin
    have hst : startedIn sub s = false := by simpa [WS.inside] using hin
    refine h.tr hb (fun j hj hx => ?_)
    have hsome : sub = some j.tid := by simpa using hx
    have : startedIn sub s = true := List.any_eq_true.mpr ⟨j, hj, by simp [hsome]⟩
    rw [hst] at this; cases this
  · intro hin htr
    have hst : startedIn sub s = true := by simpa [WS.inside] using hin
    obtain ⟨j, hj, hjs⟩ := List.any_eq_true.mp hst
    exact hsf j.tid (by simpa using hjs) (htr.runFut j hj)

/-- `_start_processes`: between two rounds of its loop `MI` holds, and `Tr` too unless the worker of
    the task being submitted has been started -/
theorem alwaysW_startPrims (hb : cfg.backend ≠ .serial) (sub : Option Tid) :
    ∀ (go stay : List Job) (s : IS), s.rs.status = .running → s.rs.queued = go ++ stay →
    MI sub.toList s → (∀ x, sub = some x → x ∉ s.rs.futs) →
    AlwaysW cfg p (TrOut cfg) (startPrims go) ⟨none, sub, startedIn sub s⟩ s ∧
    MI sub.toList (runPrims cfg p (startPrims go) s) ∧
    (runPrims cfg p (startPrims go) s).rs.status = .running ∧
    (startPrims go).foldl winStep ⟨none, sub, startedIn sub s⟩ =
      ⟨none, sub, startedIn sub (runPrims cfg p (startPrims go) s)⟩ := by
  intro go
  induction go with
  | nil => intro stay s hrun _ h hsf; exact ⟨TrOut_between hb h hsf, h, hrun, rfl⟩
  | cons j go ih =>
    intro stay s hrun hq h hsf
    obtain ⟨t1, t2, t3, t4, t5⟩ := MI_triple _ j (go ++ stay) s hrun (by rw [hq]; rfl) h
    obtain ⟨n1, n2⟩ := not_Tr_in_triple _ j (go ++ stay) s hrun (by rw [hq]; rfl) h
    have hst : startedIn sub (runPrims cfg p [Prim.procStart j.tid, Prim.regRunning j.tid, Prim.unregPending j.tid] s)
        = (startedIn sub s || (sub == some j.tid)) := by
      rw [startedIn, t4]; simp [startedIn, forkSnap_tid]
    have hw : [Prim.procStart j.tid, Prim.regRunning j.tid, Prim.unregPending j.tid].foldl winStep
        ⟨none, sub, startedIn sub s⟩ = ⟨none, sub, startedIn sub
          (runPrims cfg p [Prim.procStart j.tid, Prim.regRunning j.tid, Prim.unregPending j.tid] s)⟩ := by
      rw [hst]; rfl
    obtain ⟨i1, i2, i3, i4⟩ := ih stay _ t3 t2 t1 (by rw [t5]; exact hsf)
    have hd : TrOut cfg ([Prim.procStart j.tid, Prim.regRunning j.tid, Prim.unregPending j.tid].foldl winStep
        ⟨none, sub, startedIn sub s⟩)
        (runPrims cfg p [Prim.procStart j.tid, Prim.regRunning j.tid, Prim.unregPending j.tid] s) := by
      rw [hw]; exact i1.head
    rw [startPrims_cons, alwaysW_append, runPrims_append, List.foldl_append, hw]
    exact ⟨⟨⟨TrOut_between hb h hsf, TrOut_inside rfl n1, TrOut_inside rfl n2, hd⟩, i1⟩, i2, i3, i4⟩

/-- a block of the main stream (process runners): it begins and ends outside the window with `MI []`,
    and `TrOut` holds along it -/
def WinBlock (cfg : Config) (p : Problem) (ps : List Prim) (s : IS) : Prop :=
  AlwaysW cfg p (TrOut cfg) ps WS.init s ∧ MI [] (runPrims cfg p ps s) ∧ ps.foldl winStep WS.init = WS.init

theorem win_seq (hb : cfg.backend ≠ .serial) : BlockSeq cfg p (MI []) (WinBlock cfg p) where
  nil := fun _ h => ⟨TrOut_of_MI hb h _ rfl, h, rfl⟩
  seq := fun ha hb' => ⟨(alwaysW_append _ _ _ _).mpr ⟨ha.1, by rw [ha.2.2]; exact hb'.1⟩,
    by rw [runPrims_append]; exact hb'.2.1, by rw [List.foldl_append, ha.2.2]; exact hb'.2.2⟩
  last := fun h => h.2.1

/-- primitives that do not move the window and keep `MI []` -/
theorem WinBlock.of_neutral (hb : cfg.backend ≠ .serial) {ps : List Prim} {s : IS}
    (hn : ∀ q ∈ ps, q.winNeutral = true) (a : Always cfg p (MI []) ps s) : WinBlock cfg p ps s :=
  ⟨alwaysW_neutral WS.init ps s hn (a.mono (fun _ hs => TrOut_of_MI hb hs _ rfl)), a.last, foldl_neutral _ _ hn⟩

/-- `_start_processes` called from `wait`: no `submit_task` is in progress -/
theorem WinBlock_startProcesses (hb : cfg.backend ≠ .serial) (s : IS) (hrun : s.rs.status = .running)
    (h : MI [] s) : WinBlock cfg p (startProcessesPrims cfg s) s := by
  obtain ⟨a1, a2, _, a4⟩ := alwaysW_startPrims hb none _
    (takeN (cfg.maxWorkers - (s.rs.running.length + s.zombies.length)) s.rs.queued).2 s hrun
    (takeN_append _ _).symm h (fun x hx => by cases hx)
  rw [startedIn_none] at a1 a4
  rw [startedIn_none] at a4
  exact ⟨a1, a2, a4⟩

/-- `submit_task(t)` from `_start_processes` on: the worker of `t` may be started before its future
    is in `future_to_task` -/
theorem alwaysW_submitTail (hb : cfg.backend ≠ .serial) (t : Tid) (s : IS) (hrun : s.rs.status = .running)
    (h : MI [t] s) (htf : t ∉ s.rs.futs) (hst : startedIn (some t) s = false) :
    AlwaysW cfg p (TrOut cfg) (startProcessesPrims cfg s ++ [Prim.regFuture t]) ⟨none, some t, false⟩ s ∧
    MI [] (runPrims cfg p (startProcessesPrims cfg s ++ [Prim.regFuture t]) s) ∧
    (startProcessesPrims cfg s ++ [Prim.regFuture t]).foldl winStep ⟨none, some t, false⟩ = WS.init := by
  obtain ⟨a1, a2, a3, a4⟩ := alwaysW_startPrims (cfg := cfg) (p := p) hb (some t) _
    (takeN (cfg.maxWorkers - (s.rs.running.length + s.zombies.length)) s.rs.queued).2 s hrun
    (takeN_append _ _).symm h (fun x hx => Option.some.inj hx ▸ htf)
  rw [hst] at a1 a4
  have m4 := MI_regFuture (cfg := cfg) (p := p) t _ a3 a2
  have l := a1.last
  rw [a4] at l
  rw [startProcessesPrims]
  refine ⟨(alwaysW_append _ _ _ _).mpr ⟨a1, ?_⟩, by rw [runPrims_append]; exact m4,
    by rw [List.foldl_append, a4]; rfl⟩
  rw [a4]
  exact ⟨l, TrOut_of_MI hb m4 _ rfl⟩

theorem WinBlock_submitOne (hb : cfg.backend ≠ .serial) (s : IS) (t : Tid) (hQ : Q cfg s)
    (hrun : s.rs.status = .running) (ht : t ∈ s.rs.ts.pending) (h : MI [] s) :
    WinBlock cfg p (submitOnePrims cfg p s t) s := by
  obtain ⟨s1k, _, s1f, _⟩ := step_startTask s t ⟨hQ.1.1, hrun⟩ ht
  have m1 : MI [] (applyPrim cfg p (Prim.startTask t) s) := MI_untouched [] _ s rfl h
  have m2 := MI_enqueue (cfg := cfg) (p := p) t _ s1k.run m1 s1f
  have e2 : runPrims cfg p [Prim.startTask t, Prim.enqueue t] s =
      applyPrim cfg p (Prim.enqueue t) (applyPrim cfg p (Prim.startTask t) s) := rfl
  obtain ⟨s2, hs2⟩ : ∃ s2, s2 = applyPrim cfg p (Prim.enqueue t) (applyPrim cfg p (Prim.startTask t) s) := ⟨_, rfl⟩
  have hr2 : s2.rs.status = .running := by rw [hs2, applyPrim_status _ _ rfl]; exact s1k.run
  have hf2 : t ∉ s2.rs.futs := by rw [hs2, applyPrim_futs _ _ rfl]; exact s1f
  -- no running worker is the one of `t`: their futures are tracked, the one of `t` is not yet
  have hst : startedIn (some t) s2 = false := by
    have hrn : s2.rs.running = (applyPrim cfg p (Prim.startTask t) s).rs.running := by
      rw [hs2, applyPrim_running _ _ s1k.run]; rfl
    rw [startedIn, hrn, List.any_eq_false]
    intro j hj hjt
    have : j.tid ∈ (applyPrim cfg p (Prim.startTask t) s).rs.futs := by
      simpa using m1.tracked _ (Or.inl (List.mem_map_of_mem hj))
    exact s1f ((show t = j.tid by simpa using hjt) ▸ this)
  rw [← hs2] at m2
  obtain ⟨b1, b2, b3⟩ := alwaysW_submitTail (cfg := cfg) (p := p) hb t s2 hr2 m2 hf2 hst
  rw [submitOnePrims, if_neg hb]
  show WinBlock cfg p ([Prim.startTask t, Prim.enqueue t] ++
    startProcessesPrims cfg (runPrims cfg p [Prim.startTask t, Prim.enqueue t] s) ++ [Prim.regFuture t]) s
  rw [List.append_assoc, e2, ← hs2]
  refine ⟨(alwaysW_append _ _ _ _).mpr ⟨⟨TrOut_of_MI hb h _ rfl, TrOut_of_MI hb m1 _ rfl, ?_⟩, ?_⟩, ?_, ?_⟩
  · rw [← hs2]; exact b1.head
  · rw [e2, ← hs2]; exact b1
  · rw [runPrims_append, e2, ← hs2]; exact b2
  · rw [List.foldl_append]; exact b3

theorem WinBlock_submit (hb : cfg.backend ≠ .serial) : ∀ (l : List Tid) (s : IS), Q cfg s →
    s.rs.status = .running → l.Nodup → (∀ t ∈ l, t ∈ s.rs.ts.pending) → MI [] s →
    WinBlock cfg p (submitPrims cfg p l s) s := by
  intro l
  induction l with
  | nil => intro s _ _ _ _ h; exact (win_seq hb).nil s h
  | cons t ts ih =>
    intro s hQ hrun hnd hmem h
    have hnd' := List.nodup_cons.mp hnd
    obtain ⟨_, a2, a3, a4⟩ := always_submitOne s t hQ hrun (hmem t List.mem_cons_self)
    have w := WinBlock_submitOne (cfg := cfg) (p := p) hb s t hQ hrun (hmem t List.mem_cons_self) h
    exact (win_seq hb).seq w (ih _ a2 a3 hnd'.2 (fun x hx => a4 x (hmem x (List.mem_cons_of_mem _ hx))
      (fun hxt => hnd'.1 (hxt ▸ hx))) w.2.1)

theorem always_MI_done (req : List Tid) : ∀ (cands : List Tid) (s : IS), MI [] s →
    Always cfg p (MI []) (donePrims cfg p req cands s) s :=
  (Always.isSeq _).doneOf (fun t s h hc => by rw [h.noCanc] at hc; cases hc)
    (fun t o s h hd => ⟨h, always_of_step _ _
      (fun q hq s h => MI_untouched [] q s (yieldPrims_noexec req _ t o q hq) h)
      (MI_popFuture [] t (some o) s h (List.mem_map.mpr ⟨(t, o), hd, rfl⟩))⟩)

theorem WinBlock_done (hb : cfg.backend ≠ .serial) (req : List Tid) (cands : List Tid) (s : IS) (h : MI [] s) :
    WinBlock cfg p (donePrims cfg p req cands s) s :=
  WinBlock.of_neutral hb (members_done (P := fun q => q.winNeutral = true)
    ⟨fun q h _ => by cases q <;> first | rfl | exact Bool.noConfusion h, fun _ _ => rfl⟩ req _ _)
    (always_MI_done req _ _ h)

theorem WinBlock_wait (hb : cfg.backend ≠ .serial) (req : List Tid) (c : Choice) (s : IS)
    (hrun : s.rs.status = .running) (h : MI [] s) : WinBlock cfg p (waitPrims cfg p req c s) s := by
  rw [waitPrims, if_neg hb]
  have st0 : (runPrims cfg p [Prim.consumeResults c] s).rs.status = .running := by
    rw [runPrims_cons, runPrims_nil, applyPrim_status _ _ rfl]; exact hrun
  have a : WinBlock cfg p (Prim.consumeResults c :: deadPrims (runPrims cfg p [Prim.consumeResults c] s)) s :=
    WinBlock.of_neutral hb (forall_consume_dead rfl (fun _ => rfl))
      ⟨h, always_of_step _ _ (fun q hq s h => by
        obtain ⟨t, _, rfl⟩ := List.mem_map.mp hq; exact MI_markDead [] t s h) (MI_consume c s h)⟩
  have st1 : (runPrims cfg p (Prim.consumeResults c :: deadPrims (runPrims cfg p [Prim.consumeResults c] s))
      s).rs.status = .running :=
    (dead_list _ _ st0).2.2.2.1.trans st0
  have b := WinBlock_startProcesses (cfg := cfg) (p := p) hb _ st1 a.2.1
  refine (win_seq hb).seq ((win_seq hb).seq a b) ?_
  rw [runPrims_append]
  exact WinBlock_done hb req _ _ b.2.1

/-- `Q` is carried along with the window: the submit phase needs it -/
theorem winQ_seq (hb : cfg.backend ≠ .serial) : BlockSeq cfg p (fun s => Q cfg s ∧ MI [] s)
    (fun ps s => Q cfg (runPrims cfg p ps s) ∧ WinBlock cfg p ps s) where
  nil := fun s h => ⟨h.1, (win_seq hb).nil s h.2⟩
  seq := fun ha hb' => ⟨by rw [runPrims_append]; exact hb'.1, (win_seq hb).seq ha.2 hb'.2⟩
  last := fun h => ⟨h.1, h.2.2.1⟩

theorem alwaysW_main (hb : cfg.backend ≠ .serial) (req : List Tid) (sched : List Choice) (s : IS)
    (hQ : Q cfg s) (h : MI [] s) :
    Q cfg (runPrims cfg p (mainStream cfg p req sched s) s) ∧ WinBlock cfg p (mainStream cfg p req sched s) s :=
  (winQ_seq hb).main ((winQ_seq hb).iteration
    (fun s h hrun =>
      have hsub := readyAux_sublist p s.rs.ts s.rs.ts.pending (typeCount p s.rs.ts.active)
      ⟨((Q_walk req).submit s h.1 hrun).last, WinBlock_submit hb _ s h.1 hrun (hsub.nodup h.1.1.1.ndP)
        (fun _ ht => hsub.subset ht) h.2⟩)
    (fun c s h hrun => ⟨((Q_walk req).wait c s h.1).last, WinBlock_wait hb req c s hrun h.2⟩)) sched s ⟨hQ, h⟩

theorem MI_init (store : Store) (fuel : Nat) : MI [] (initIS cfg p store fuel) := by
  constructor <;> simp [initIS, initRS, places]

/-- the serial runner: there are no worker processes -/
def Idle (s : IS) : Prop := s.rs.running = [] ∧ s.alive = []

theorem Idle.tr {s : IS} (h : Idle s) : Tr cfg s := by
  obtain ⟨h1, h2⟩ := h
  constructor <;> simp [h1, h2]

def Prim.idleSafe : Prim → Bool
  | .procStart _ | .regRunning _ => false
  | _ => true

theorem idleSafe_of_noexec {q : Prim} (h : q.touchesExec = false) : q.idleSafe = true := by
  cases q <;> first | rfl | exact Bool.noConfusion h

theorem Idle_step (q : Prim) (s : IS) (hq : q.idleSafe = true) (h : Idle s) : Idle (applyPrim cfg p q s) := by
  by_cases hw : q.touchesW = false
  · obtain ⟨e1, e2, _⟩ := applyPrim_w q s hw
    exact ⟨e2.trans h.1, e1.trans h.2⟩
  · by_cases hrun : s.rs.status = .running
    · rw [applyPrim_running _ _ hrun]
      obtain ⟨h1, h2⟩ := h
      cases q <;> (try exact absurd rfl hw) <;> (try exact Bool.noConfusion hq) <;>
        simp only [stepPrim, Idle] <;> (repeat' split) <;> simp [h1, h2, stayOf, enumFrom]
    · rw [applyPrim_stopped _ _ hrun]; exact h

/-- the serial runner's main stream launches no process -/
theorem always_Idle_main (hb : cfg.backend = .serial) (req : List Tid) (sched : List Choice) (s : IS)
    (h : Idle s) : Always cfg p Idle (mainStream cfg p req sched s) s :=
  have safe : ∀ ps, (∀ q ∈ ps, q.idleSafe = true) → ∀ s, Idle s → Always cfg p Idle ps s :=
    fun ps hq s h => always_of_step ps s (fun q hq' s h => Idle_step q s (hq q hq') h) h
  have w := Always.isSeq Idle
  have one : ∀ s t, Idle s → Always cfg p Idle (submitOnePrims cfg p s t) s := fun s t => by
    rw [submitOnePrims, if_pos hb]; exact safe _ (by simp [Prim.idleSafe]) s
  have wait := w.wait (req := req) (fun _ => safe _ (by simp [Prim.idleSafe]))
    (fun _ s _ _ _ => safe _ (by simp [Prim.idleSafe]) s)
    (fun _ t o s => safe _ (fun q hq => by
      rcases List.mem_cons.mp hq with rfl | hq
      · rfl
      · exact idleSafe_of_noexec (yieldPrims_noexec req s.rs.ts t o q hq)) s)
    (fun hb' => absurd hb hb') (fun hb' => absurd hb hb') (fun hb' => absurd hb hb')
  w.main (w.iteration (fun s h _ => w.submit one _ s h) (fun c s h _ => wait c s h)) sched s h

/-- `Tr` holds at every interrupt instant that is not inside a start-and-track window -/
theorem stateAt_Tr_outside (store : Store) (fuel : Nat) (sched : List Choice) (k : Nat)
    (hw : inWindow ((mainOf cfg p store fuel sched).take k) = false) :
    Tr cfg (stateAt cfg p store fuel sched k) := by
  by_cases hb : cfg.backend = .serial
  · exact Idle.tr ((always_Idle_main hb (reqTids p) sched _ ⟨rfl, rfl⟩).prefix k)
  · exact ((alwaysW_main hb (reqTids p) sched _ (Q_init store fuel)
      (MI_init store fuel)).2.1.prefix k).1 hw

/-- process runners: `Tr` FAILS at every interrupt instant inside a start-and-track window -/
theorem stateAt_not_Tr_inside (hb : cfg.backend ≠ .serial) (store : Store) (fuel : Nat) (sched : List Choice)
    (k : Nat) (hw : inWindow ((mainOf cfg p store fuel sched).take k) = true) :
    ¬ Tr cfg (stateAt cfg p store fuel sched k) :=
  ((alwaysW_main hb (reqTids p) sched _ (Q_init store fuel)
      (MI_init store fuel)).2.1.prefix k).2 hw

/-- the state in which the main loop's stream of a schedule ends is outside the window and
    satisfies `Tr` -/
theorem mainEnd_Tr (store : Store) (fuel : Nat) (sched : List Choice) :
    Tr cfg (runPrims cfg p (mainOf cfg p store fuel sched) (initIS cfg p store fuel)) := by
  by_cases hb : cfg.backend = .serial
  · exact Idle.tr (always_Idle_main hb (reqTids p) sched _ ⟨rfl, rfl⟩).last
  · exact (alwaysW_main hb (reqTids p) sched _ (Q_init store fuel)
      (MI_init store fuel)).2.2.1.tr hb (fun _ _ => by simp)

theorem mainEnd_outside (store : Store) (fuel : Nat) (sched : List Choice) (hb : cfg.backend ≠ .serial) :
    inWindow (mainOf cfg p store fuel sched) = false := by
  have := (alwaysW_main (cfg := cfg) (p := p) hb (reqTids p) sched (initIS cfg p store fuel)
      (Q_init store fuel) (MI_init store fuel)).2.2.2
  simp only [inWindow, winOf]
  rw [this]; rfl

/-- the stream of a truncated schedule is a prefix of the stream of the schedule: the state at the
    head of iteration `i` is the state at an interrupt instant `k` -/
theorem mainStream_take (req : List Tid) : ∀ (sched : List Choice) (s : IS) (i : Nat),
    ∃ k, (mainStream cfg p req sched s).take k = mainStream cfg p req (sched.take i) s := by
  intro sched
  induction sched with
  | nil => intro s i; exact ⟨0, by simp [mainStream]⟩
  | cons c cs ih =>
    intro s i
    cases i with
    | zero => exact ⟨0, by simp [mainStream]⟩
    | succ i =>
      rw [List.take_succ_cons]
      unfold mainStream
      split
      · split
        · obtain ⟨k, hk⟩ := ih (runPrims cfg p (iterationPrims cfg p req c s) s) i
          refine ⟨(iterationPrims cfg p req c s).length + k, ?_⟩
          rw [List.take_append, List.take_of_length_le (Nat.le_add_right _ _), Nat.add_sub_cancel_left, hk]
        · exact ⟨0, rfl⟩
      · exact ⟨0, rfl⟩

end Lt
