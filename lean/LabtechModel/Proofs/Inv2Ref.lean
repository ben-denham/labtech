import LabtechModel.Proofs.Inv2Flag
/-!
# C10 / C01 / C08: failure-aware reference evaluation

`refEvalF cfg p store obj t`: the value of `t` in a plain sequential dependency-first evaluation in
which tasks may fail: a task whose worker dies has no value; a task cached beforehand (and not
busted) has the stored value, *whatever it is*; a task whose `run()` raises has no value; otherwise
`run()` applied to the reference values of the task objects in its parameters, a failed one being
read as `none` (reading `.result` raises `TaskError`, which `run()` may handle or let propagate).

`ValInv`: every yielded outcome is `refOutcome t`, the store entry of every task that was run is
`storeAfter t` (its own saved value if it was executed, succeeded and is cacheable; the pre-state
entry otherwise), the captured results are exactly the successful yields of requested tasks.
It is kept by the submit phase and by one handled reference outcome (`yieldStep_val`), and every outcome
a wait hands over is the reference outcome (`serialOutcome_refF`, `finOutcome_refF`); the walk over whole
runs is in `Proofs/Inv2FailFast.lean`.
-/
namespace Lt
variable {cfg : Config} {p : Problem} {obj : Tid → Iid} {store0 : Store} {fuel : Nat} {req : List Tid}

def refAuxF (cfg : Config) (p : Problem) (store : Store) (obj : Tid → Iid) : Nat → Tid → Option Val
  | 0, _ => none
  | n + 1, t =>
    if diesIn cfg p t then none
    else if useCache cfg p store t then lookup t store
    else if p.fails t then none
    else p.behave t ((p.children (obj t)).map (fun c => refAuxF cfg p store obj n (p.tidOf c)))

def refEvalF (cfg : Config) (p : Problem) (store : Store) (obj : Tid → Iid) (t : Tid) : Option Val :=
  refAuxF cfg p store obj (t + 1) t

/-- the outcome the coordinator is handed for `t`, according to the reference evaluation -/
def refOutcome (cfg : Config) (p : Problem) (store : Store) (obj : Tid → Iid) (t : Tid) : Outcome :=
  if diesIn cfg p t then .died
  else match refEvalF cfg p store obj t with
    | some v => .ok v
    | none => .exc

/-- the store entry of `t` after `t` was run: an executed (not loaded), successful task of a
    cacheable type saved its value; everything else leaves the pre-state entry -/
def storeAfter (cfg : Config) (p : Problem) (store : Store) (obj : Tid → Iid) (t : Tid) : Option Val :=
  if useCache cfg p store t = false ∧ p.cacheable (p.ty t) = true then
    match refEvalF cfg p store obj t with
    | some v => some v
    | none => lookup t store
  else lookup t store

structure RefHypF (p : Problem) (obj : Tid → Iid) : Prop where
  acyc : Acyclic p
  inst : InstOK p
  objOK : ObjOK p obj

theorem refAuxF_stable (cfg : Config) (p : Problem) (store : Store) (obj : Tid → Iid)
    (hA : Acyclic p) (hO : ObjOK p obj) :
    ∀ n i m, p.tidOf i < n → p.tidOf i < m →
      refAuxF cfg p store obj m (p.tidOf i) = refAuxF cfg p store obj n (p.tidOf i) :=
  fuel_stable hA hO (refAuxF cfg p store obj) (fun n m i h => by
    simp only [refAuxF, List.map_congr_left h])

/-- unfolding of the failure-aware reference value of a task that has an object -/
theorem refEvalF_unfold (cfg : Config) (p : Problem) (store : Store) (obj : Tid → Iid)
    (hA : Acyclic p) (hO : ObjOK p obj) (i : Iid) :
    refEvalF cfg p store obj (p.tidOf i) =
      if diesIn cfg p (p.tidOf i) then none
      else if useCache cfg p store (p.tidOf i) then lookup (p.tidOf i) store
      else if p.fails (p.tidOf i) then none
      else p.behave (p.tidOf i)
        (((p.children (obj (p.tidOf i))).map p.tidOf).map (refEvalF cfg p store obj)) := by
  have hmap : (p.children (obj (p.tidOf i))).map (fun c => refAuxF cfg p store obj (p.tidOf i) (p.tidOf c))
      = ((p.children (obj (p.tidOf i))).map p.tidOf).map (refEvalF cfg p store obj) := by
    rw [List.map_map]
    apply List.map_congr_left
    intro c hc
    have hlt := hO.child_lt hA i c hc
    simp only [Function.comp, refEvalF]
    exact (refAuxF_stable cfg p store obj hA hO (p.tidOf c + 1) c (p.tidOf i) (Nat.lt_succ_self _) hlt)
  simp only [refEvalF, refAuxF, hmap]

theorem refEvalF_dies (cfg : Config) (p : Problem) (store : Store) (obj : Tid → Iid) (t : Tid)
    (h : diesIn cfg p t = true) : refEvalF cfg p store obj t = none := by
  simp [refEvalF, refAuxF, h]

theorem refOutcome_ok_iff (cfg : Config) (p : Problem) (store : Store) (obj : Tid → Iid) (t : Tid) (v : Val) :
    refOutcome cfg p store obj t = .ok v ↔ refEvalF cfg p store obj t = some v := by
  simp only [refOutcome]
  cases hd : diesIn cfg p t with
  | true => simp [refEvalF_dies cfg p store obj t hd]
  | false =>
    cases refEvalF cfg p store obj t with
    | none => simp
    | some w => simp

structure ValInv (cfg : Config) (p : Problem) (obj : Tid → Iid) (store0 : Store) (req : List Tid)
    (extra : List Tid) (rs : RS) : Prop where
  yOk : ∀ t o, Ev.yield t o ∈ rs.trace → o = refOutcome cfg p store0 obj t
  stoDone : ∀ t, (t ∈ yielded rs ∨ t ∈ extra) → lookup t rs.store = storeAfter cfg p store0 obj t
  capture : ∀ t ∈ req, ∀ v, lookup t rs.taskResults = some v ↔ Ev.yield t (.ok v) ∈ rs.trace
  run : rs.status = .running

/-- moving to a state whose trace is extended by non-yield events -/
theorem ValInv.transfer {extra extra' : List Tid} {rs rs' : RS}
    (h : ValInv cfg p obj store0 req extra rs) (l : List Ev)
    (htr : rs'.trace = rs.trace ++ l) (hny : ∀ e ∈ l, evYield e = none)
    (htres : rs'.taskResults = rs.taskResults) (hst : rs'.status = rs.status)
    (hdone : ∀ t, (t ∈ yielded rs ∨ t ∈ extra') → lookup t rs'.store = storeAfter cfg p store0 obj t) :
    ValInv cfg p obj store0 req extra' rs' where
  yOk := by
    intro t o ho
    rw [htr, mem_yield_append_ny _ _ hny] at ho
    exact h.yOk t o ho
  stoDone := by
    intro t ht
    simp only [yielded, htr, yieldedOf_append_ny _ _ hny] at ht
    exact hdone t ht
  capture := by
    intro t ht v
    rw [htr, mem_yield_append_ny _ _ hny, htres]
    exact h.capture t ht v
  run := by rw [hst]; exact h.run

theorem ValInv.perm_extra {extra extra' : List Tid} {rs : RS}
    (h : ValInv cfg p obj store0 req extra rs)
    (hp : ∀ t, t ∈ extra ↔ t ∈ extra') : ValInv cfg p obj store0 req extra' rs where
  yOk := h.yOk
  stoDone := fun t ht => h.stoDone t (ht.imp id (hp t).mpr)
  capture := h.capture
  run := h.run

/-- a planned task has an object, and its first recorded object is one -/
theorem planned_repr (cfg : Config) (p : Problem) (store : Store) (fuel : Nat) (t : Tid)
    (h : t ∈ (plan cfg p store fuel).pending) :
    repr0 (plan cfg p store fuel) t ∈ (plan cfg p store fuel).instances t ∧
    p.tidOf (repr0 (plan cfg p store fuel) t) = t := by
  have hinst := repr0_mem _ t (plan_pending_instances cfg p store fuel t h)
  exact ⟨hinst, plan_instances_tid cfg p store fuel t _ hinst⟩

/-- what `run()` of an active, not-cached task reads from any good snapshot: the reference values
    of its dependencies, a failed one as `none` -/
theorem reads_refF {extra : List Tid} {rs : RS}
    (H : RefHypF p obj)
    (hc : Core p (plan cfg p store0 fuel) rs) (hr : ValInv cfg p obj store0 req extra rs)
    (t : Tid) (ht : t ∈ rs.ts.active) (snap : List (Tid × Val))
    (hsn : SnapOK (plan cfg p store0 fuel) rs.trace snap t) (huc : useCache cfg p store0 t = false) :
    reads p (repr0 (plan cfg p store0 fuel) t) snap =
      ((p.children (obj t)).map p.tidOf).map (refEvalF cfg p store0 obj) := by
  have htP : t ∈ (plan cfg p store0 fuel).pending := (hc.ts.cover t).mpr (Or.inr (Or.inl ht))
  obtain ⟨hinst, hti⟩ := planned_repr cfg p store0 fuel t htP
  generalize repr0 (plan cfg p store0 fuel) t = i at hinst hti ⊢
  have hreads : reads p i snap = ((p.children i).map p.tidOf).map (refEvalF cfg p store0 obj) := by
    simp only [reads, List.map_map]
    apply List.map_congr_left
    intro c hcm
    have hd := plan_ddeps_complete cfg p store0 fuel t i hinst huc c hcm
    obtain ⟨o, ho⟩ := (mem_yieldedOf _ _).mp (hc.ts.actDeps t ht _ hd)
    have ho' := hr.yOk _ _ ho
    simp only [Function.comp]
    cases hv : refEvalF cfg p store0 obj (p.tidOf c) with
    | some v =>
      have := (refOutcome_ok_iff cfg p store0 obj (p.tidOf c) v).mpr hv
      rw [this] at ho'
      subst ho'
      exact (hsn _ hd v).mpr ho
    | none =>
      cases hl : lookup (p.tidOf c) snap with
      | none => rfl
      | some v =>
        have h1 := (hsn _ hd v).mp hl
        have h2 := hr.yOk _ _ h1
        have h3 := (refOutcome_ok_iff cfg p store0 obj (p.tidOf c) v).mp h2.symm
        rw [hv] at h3
        cases h3
  rw [hreads, H.inst i (obj (p.tidOf i)) (H.objOK i).symm, hti]

/-- the outcome of a job of an active task whose worker does not die is the reference outcome,
    whatever store it runs against as long as the task's own entry is the pre-state one -/
theorem runOutcome_refF {extra : List Tid} {rs : RS}
    (H : RefHypF p obj)
    (hc : Core p (plan cfg p store0 fuel) rs) (hr : ValInv cfg p obj store0 req extra rs)
    (j : Job) (hact : j.tid ∈ rs.ts.active) (hflag : j.useCache = useCache cfg p store0 j.tid)
    (snap : List (Tid × Val)) (hs : j.snap = some snap)
    (hsn : SnapOK (plan cfg p store0 fuel) rs.trace snap j.tid)
    (st : Store) (hst : lookup j.tid st = lookup j.tid store0) (hnd : diesIn cfg p j.tid = false) :
    runOutcome p rs.ts st j = refOutcome cfg p store0 obj j.tid := by
  have htP : j.tid ∈ (plan cfg p store0 fuel).pending := (hc.ts.cover _).mpr (Or.inr (Or.inl hact))
  obtain ⟨_, hti⟩ := planned_repr cfg p store0 fuel j.tid htP
  have hunf := refEvalF_unfold cfg p store0 obj H.acyc H.objOK (repr0 (plan cfg p store0 fuel) j.tid)
  rw [hti] at hunf
  simp only [hnd, Bool.false_eq_true, if_false] at hunf
  cases huc : j.useCache with
  | true =>
    have huc0 : useCache cfg p store0 j.tid = true := by rw [← hflag]; exact huc
    have hsome := useCache_isSome cfg p store0 j.tid huc0
    cases hl : lookup j.tid store0 with
    | none => rw [hl] at hsome; simp at hsome
    | some v =>
      simp only [huc0, if_true, hl] at hunf
      simp [runOutcome, huc, hst, hl, refOutcome, hnd, hunf]
  | false =>
    have huc0 : useCache cfg p store0 j.tid = false := by rw [← hflag]; exact huc
    have hreads := reads_refF H hc hr j.tid hact snap hsn huc0
    simp only [huc0, Bool.false_eq_true, if_false] at hunf
    simp only [runOutcome, huc, hs, Option.getD_some, repr0_eq _ _ hc.ts.inst, hreads, refOutcome, hnd, hunf,
      Bool.false_eq_true, if_false]
    cases hf : p.fails j.tid with
    | true => simp
    | false =>
      simp only [Bool.false_eq_true, if_false]
      generalize p.behave j.tid _ = b
      cases b <;> rfl

theorem saveIfRan_self (cfg : Config) (p : Problem) (store0 : Store) (obj : Tid → Iid) (st : Store) (j : Job)
    (o : Outcome) (hflag : j.useCache = useCache cfg p store0 j.tid)
    (hst : lookup j.tid st = lookup j.tid store0) (ho : o = refOutcome cfg p store0 obj j.tid) :
    lookup j.tid (saveIfRan p st j o) = storeAfter cfg p store0 obj j.tid := by
  subst ho
  simp only [refOutcome, storeAfter]
  cases hd : diesIn cfg p j.tid with
  | true =>
    simp only [if_true, saveIfRan, refEvalF_dies cfg p store0 obj j.tid hd, hst]
    split <;> rfl
  | false =>
    simp only [Bool.false_eq_true, if_false]
    cases hv : refEvalF cfg p store0 obj j.tid with
    | none =>
      simp only [saveIfRan, hst]
      split <;> rfl
    | some v =>
      simp only [saveIfRan, hflag]
      cases hu : useCache cfg p store0 j.tid <;> cases hcb : p.cacheable (p.ty j.tid) <;>
        simp [hst, lookup]

theorem saveAll_self (cfg : Config) (p : Problem) (store0 : Store) (obj : Tid → Iid) (ts : TS) :
    ∀ (js : List Job) (st : Store), (js.map Job.tid).Nodup →
      (∀ j ∈ js, lookup j.tid st = lookup j.tid store0) →
      (∀ j ∈ js, j.useCache = useCache cfg p store0 j.tid) →
      (∀ j ∈ js, ∀ st', lookup j.tid st' = lookup j.tid store0 →
        jobOutcome p ts st' j = refOutcome cfg p store0 obj j.tid) →
      ∀ j ∈ js, lookup j.tid (saveAll p ts js st) = storeAfter cfg p store0 obj j.tid := by
  intro js
  induction js with
  | nil => intro st _ _ _ _ j hj; simp at hj
  | cons a js ih =>
    intro st hnd hst hflag hout j hj
    simp only [List.map_cons, List.nodup_cons] at hnd
    simp only [saveAll]
    by_cases hja : j.tid = a.tid
    · rw [hja, saveAll_lookup_ne p ts a.tid js _ (by
        intro j' hj' heq
        exact hnd.1 (List.mem_map.mpr ⟨j', hj', heq.symm⟩))]
      exact saveIfRan_self cfg p store0 obj st a _ (hflag a List.mem_cons_self) (hst a List.mem_cons_self)
        (hout a List.mem_cons_self st (hst a List.mem_cons_self))
    · have hjs : j ∈ js := by
        rcases List.mem_cons.mp hj with h | h
        · subst h; exact absurd rfl hja
        · exact h
      apply ih _ hnd.2 _ (fun j' hj' => hflag j' (List.mem_cons_of_mem _ hj'))
        (fun j' hj' => hout j' (List.mem_cons_of_mem _ hj')) j hjs
      intro j' hj'
      have hne : j'.tid ≠ a.tid := by
        intro heq
        exact hnd.1 (List.mem_map.mpr ⟨j', hj', heq⟩)
      rw [saveIfRan_lookup_ne p st a _ j'.tid hne]
      exact hst j' (List.mem_cons_of_mem _ hj')

theorem startProcesses_val {extra : List Tid} {rs : RS}
    (h : ValInv cfg p obj store0 req extra rs) :
    ValInv cfg p obj store0 req extra (startProcesses cfg rs) := by
  obtain ⟨go, stay, _, hsp⟩ := startProcesses_shape cfg rs
  rw [hsp]
  exact h.transfer _ rfl (fun e he => ((quiet_starts _) e he).1) rfl rfl h.stoDone

theorem submitStep_val {rs : RS} {t : Tid} (hr : ValInv cfg p obj store0 req [] rs) :
    ValInv cfg p obj store0 req [] (submitTask cfg p { rs with ts := startedTS rs.ts t } t) := by
  have hbase : ValInv cfg p obj store0 req []
      (submitState rs t (newJob cfg p rs t) (useCache cfg p rs.store t)) := by
    refine hr.transfer [Ev.submit t (useCache cfg p rs.store t)] rfl ?_ rfl rfl hr.stoDone
    intro e he; simp only [List.mem_singleton] at he; subst he; rfl
  simp only [submitTask]
  split
  · exact hbase
  · exact startProcesses_val hbase

theorem processYield_status_keep (cfg : Config) (req : List Tid) (rs : RS) (t : Tid) (o : Outcome)
    (s' : TS) (rem : List Tid) (hct : completeTask rs.ts t = some (s', rem))
    (hok : cfg.contOnFail = true ∨ ∃ v, o = .ok v) :
    (processYield cfg req rs t o).status = rs.status := by
  cases o with
  | ok v => simp [processYield, hct]
  | exc | died =>
    rcases hok with h | ⟨v, hv⟩
    · simp [processYield, hct, h]
    · cases hv

theorem processYield_taskResults (cfg : Config) (req : List Tid) (rs : RS) (t : Tid) (o : Outcome) :
    (processYield cfg req rs t o).taskResults =
      match o with
      | .ok v => if t ∈ req then (t, v) :: rs.taskResults.filter (fun kv => kv.1 ≠ t) else rs.taskResults
      | _ => rs.taskResults := by
  cases o <;> simp only [processYield] <;> split <;> rfl

/-- the yields in the trace after one outcome was handled -/
theorem processYield_mem_yield (cfg : Config) (req : List Tid) (rs : RS) (t : Tid) (o : Outcome)
    (t' : Tid) (o' : Outcome) :
    Ev.yield t' o' ∈ (processYield cfg req rs t o).trace ↔
      (Ev.yield t' o' ∈ rs.trace ∨ (t' = t ∧ o' = o)) := by
  obtain ⟨tail, htr, htail⟩ := processYield_trace cfg req rs t o
  rw [htr, List.mem_append, List.mem_cons, Ev.yield.injEq]
  refine or_congr_right ⟨?_, Or.inl⟩
  rintro (h | h)
  · exact h
  · obtain ⟨a, b, hab⟩ := htail _ h; cases hab

theorem yieldStep_val {extra : List Tid} {rs : RS} {t : Tid} (o : Outcome)
    (hc : Core p (plan cfg p store0 fuel) rs) (he : Exec cfg (plan cfg p store0 fuel) (t :: extra) rs)
    (hr : ValInv cfg p obj store0 req (t :: extra) rs) (ho : o = refOutcome cfg p store0 obj t)
    (hok : cfg.contOnFail = true ∨ ∃ v, o = .ok v) :
    ValInv cfg p obj store0 req extra
      (processYield cfg req { rs with futs := rs.futs.filter (· ≠ t) } t o) := by
  have htF : t ∈ rs.futs := he.perm.mem_iff.mp (by simp)
  have htA : t ∈ rs.ts.active := (hc.futsAct t).mp htF
  have htY : t ∉ yielded rs := hc.ts.disjAY t htA
  obtain ⟨s', rem, hct, _⟩ := completeTask_TSInv _ (plan_PI cfg p store0 fuel) _ rs.ts t hc.ts htA
  have hmemY := processYield_mem_yield cfg req { rs with futs := rs.futs.filter (· ≠ t) } t o
  have hstore := processYield_store cfg req { rs with futs := rs.futs.filter (· ≠ t) } t o
  have hyld := processYield_yielded cfg req { rs with futs := rs.futs.filter (· ≠ t) } t o
  have htres := processYield_taskResults cfg req { rs with futs := rs.futs.filter (· ≠ t) } t o
  have hstat := processYield_status_keep cfg req { rs with futs := rs.futs.filter (· ≠ t) } t o s' rem hct hok
  generalize processYield cfg req { rs with futs := rs.futs.filter (· ≠ t) } t o = rs' at *
  simp only at hmemY hstore hyld htres hstat
  have hyld' : yielded rs' = yielded rs ++ [t] := hyld
  have hnoT : ∀ o', Ev.yield t o' ∉ rs.trace := fun o' ho' => htY ((mem_yieldedOf _ _).mpr ⟨o', ho'⟩)
  exact {
    yOk := by
      intro t' o' ho'
      rcases (hmemY t' o').mp ho' with h | ⟨h1, h2⟩
      · exact hr.yOk t' o' h
      · subst h1; subst h2; exact ho
    stoDone := by
      intro t' ht'
      rw [hstore]
      apply hr.stoDone t'
      rw [hyld'] at ht'
      simpa [or_assoc] using ht'
    capture := by
      intro t' ht' v
      rw [hmemY, htres]
      by_cases hne : t' = t
      · subst hne
        have hold : ∀ w, lookup t' rs.taskResults ≠ some w := fun w hw =>
          hnoT _ ((hr.capture t' ht' w).mp hw)
        cases o with
        | ok w =>
          simp only [ht', if_true, lookup_cons_filter_self, Option.some.injEq, Outcome.ok.injEq, true_and]
          constructor
          · intro h; exact Or.inr h.symm
          · rintro (h | h)
            · exact absurd h (hnoT _)
            · exact h.symm
        | exc | died =>
          simp only [reduceCtorEq, and_false, or_false]
          exact ⟨fun h => absurd h (hold v), fun h => absurd h (hnoT _)⟩
      · have hsimp : (Ev.yield t' (.ok v) ∈ rs.trace ∨ t' = t ∧ Outcome.ok v = o) ↔
            Ev.yield t' (.ok v) ∈ rs.trace := by simp [hne]
        rw [hsimp, ← hr.capture t' ht' v]
        cases o with
        | ok w =>
          simp only
          split
          · rw [lookup_cons_filter_ne _ _ _ hne _]
          · rfl
        | exc | died => rfl
    run := by rw [hstat]; exact hr.run }

/-- the job the serial runner takes from its deque yields the reference outcome of its task -/
theorem serialOutcome_refF {rs : RS} (H : RefHypF p obj) (hb : cfg.backend = .serial)
    (hc : Core p (plan cfg p store0 fuel) rs) (he : Exec cfg (plan cfg p store0 fuel) [] rs)
    (hf : FlagInv cfg p store0 [] rs) (hr : ValInv cfg p obj store0 req [] rs)
    (j : Job) (rest : List Job) (hq : rs.queued = j :: rest) :
    runOutcome p rs.ts rs.store { j with snap := some rs.results } = refOutcome cfg p store0 obj j.tid := by
  have hs := hf.2 hr.run
  have hjq : j ∈ rs.queued ++ rs.running := by rw [hq]; simp
  have hjA : j.tid ∈ rs.ts.active := he.job_active hc j hjq
  have hjY : j.tid ∉ yielded rs := hc.ts.disjAY _ hjA
  exact runOutcome_refF H hc hr { j with snap := some rs.results } hjA (hs.flag j hjq)
    rs.results rfl (results_snapOK (plan_PI cfg p store0 fuel) hc he j.tid hjY) rs.store
    (hs.frame j.tid hjY (by simp)) (diesIn_serial cfg p _ hb)

theorem serialPre_val {rs : RS} (H : RefHypF p obj) (hb : cfg.backend = .serial)
    (hc : Core p (plan cfg p store0 fuel) rs) (he : Exec cfg (plan cfg p store0 fuel) [] rs)
    (hf : FlagInv cfg p store0 [] rs) (hr : ValInv cfg p obj store0 req [] rs)
    (j : Job) (rest : List Job) (hq : rs.queued = j :: rest) :
    ValInv cfg p obj store0 req [j.tid] (serialPre p rs j rest) := by
  have hs := hf.2 hr.run
  have hjq : j ∈ rs.queued ++ rs.running := by rw [hq]; simp
  have hjY : j.tid ∉ yielded rs := hc.ts.disjAY _ (he.job_active hc j hjq)
  refine hr.transfer (serialEvs p rs j) (serialPre_trace p rs j rest)
    (fun e he' => ((serialEvs_quiet p rs j) e he').1) rfl rfl ?_
  intro t ht
  show lookup t (saveIfRan p rs.store { j with snap := some rs.results }
    (runOutcome p rs.ts rs.store { j with snap := some rs.results })) = _
  by_cases htj : t = j.tid
  · subst htj
    exact saveIfRan_self cfg p store0 obj rs.store { j with snap := some rs.results } _ (hs.flag j hjq)
      (hs.frame j.tid hjY (by simp)) (serialOutcome_refF H hb hc he hf hr j rest hq)
  · rw [saveIfRan_lookup_ne p rs.store { j with snap := some rs.results } _ t htj]
    apply hr.stoDone t
    rcases ht with h | h
    · exact Or.inl h
    · simp only [List.mem_singleton] at h; exact absurd h htj

/-- the store entry of a worker that finishes in this wait is still the one of the cache pre-state -/
theorem finJobs_frame {P : TS} {store0 : Store} {rs : RS} (c : Choice)
    (hc : Core p P rs) (he : Exec cfg P [] rs) (hs : FlagSt cfg p store0 [] rs) :
    ∀ j ∈ finJobs c rs, lookup j.tid rs.store = lookup j.tid store0 := fun j hj =>
  hs.frame j.tid (hc.ts.disjAY _ (he.job_active hc j (List.mem_append_right _ (finJobs_mem c rs j hj))))
    (by simp)

/-- a worker that finishes in this wait hands over the reference outcome of its task, against any
    store that kept the task's own entry -/
theorem finOutcome_refF {rs : RS} (H : RefHypF p obj) (c : Choice) (hb : cfg.backend ≠ .serial)
    (hc : Core p (plan cfg p store0 fuel) rs) (he : Exec cfg (plan cfg p store0 fuel) [] rs)
    (hf : FlagInv cfg p store0 [] rs) (hr : ValInv cfg p obj store0 req [] rs) :
    ∀ j ∈ finJobs c rs, ∀ st', lookup j.tid st' = lookup j.tid store0 →
      jobOutcome p rs.ts st' j = refOutcome cfg p store0 obj j.tid := by
  intro j hj st' hst'
  have hjr := finJobs_mem c rs j hj
  have hjq : j ∈ rs.queued ++ rs.running := List.mem_append_right _ hjr
  cases hd : p.dies j.tid with
  | true => simp [jobOutcome, hd, refOutcome, diesIn_process cfg p _ hb]
  | false =>
    cases hsn : j.snap with
    | none => exact absurd hsn (he.runSnap j hjr)
    | some snap =>
      simp only [jobOutcome, hd, Bool.false_eq_true, if_false]
      exact runOutcome_refF H hc hr j (he.job_active hc j hjq) ((hf.2 hr.run).flag j hjq) snap hsn
        (he.snapOK j hjq snap hsn) st' hst' (by rw [diesIn_process cfg p _ hb]; exact hd)

theorem procPre_val {rs : RS} (H : RefHypF p obj) (c : Choice) (hb : cfg.backend ≠ .serial)
    (hc : Core p (plan cfg p store0 fuel) rs) (he : Exec cfg (plan cfg p store0 fuel) [] rs)
    (hf : FlagInv cfg p store0 [] rs) (hr : ValInv cfg p obj store0 req [] rs)
    (hnd : ((finJobs c rs).map Job.tid).Nodup) :
    ValInv cfg p obj store0 req ((finJobs c rs).map Job.tid) (procPre p c rs) := by
  have hs := hf.2 hr.run
  refine hr.transfer (procEvs p c rs) (procPre_trace p c rs)
    (fun e he' => ((procEvs_quiet p c rs) e he').1) rfl rfl ?_
  intro t ht
  show lookup t (saveAll p rs.ts (finJobs c rs) rs.store) = _
  by_cases htf : t ∈ (finJobs c rs).map Job.tid
  · obtain ⟨j, hj, rfl⟩ := List.mem_map.mp htf
    exact saveAll_self cfg p store0 obj rs.ts _ _ hnd (finJobs_frame c hc he hs)
      (fun j hj => hs.flag j (List.mem_append_right _ (finJobs_mem c rs j hj)))
      (finOutcome_refF H c hb hc he hf hr) j hj
  · rw [saveAll_lookup_ne p rs.ts t _ _ (by
      intro j hj heq
      exact htf (List.mem_map.mpr ⟨j, hj, heq.symm⟩))]
    apply hr.stoDone t
    rcases ht with h | h
    · exact Or.inl h
    · exact absurd h htf

/-- every outcome a process wait delivers is the one of a worker that finished in it -/
theorem procYs_job (p : Problem) (c : Choice) (rs : RS) (y : Tid × Outcome) (hy : y ∈ procYs p c rs) :
    ∃ j ∈ finJobs c rs, y = (j.tid, jobOutcome p rs.ts rs.store j) := by
  simp only [procYs, List.mem_filterMap] at hy
  obtain ⟨t, _, hfind⟩ := hy
  have hyO := List.mem_of_find?_eq_some hfind
  simp only [procOutcomes, List.mem_map] at hyO
  obtain ⟨j, hj, rfl⟩ := hyO
  exact ⟨j, hj, rfl⟩

/-- "nothing fails": every planned task has a reference value -/
def NoFailure (cfg : Config) (p : Problem) (store : Store) (obj : Tid → Iid) (fuel : Nat) : Prop :=
  ∀ t ∈ (plan cfg p store fuel).pending, (refEvalF cfg p store obj t).isSome

theorem initRS_val (cfg : Config) (p : Problem) (obj : Tid → Iid) (store : Store) (fuel : Nat) :
    ValInv cfg p obj store (reqTids p) [] (initRS cfg p store fuel) where
  yOk := by intro t o h; simp [initRS] at h
  stoDone := by intro t h; simp [initRS, yielded, yieldedOf] at h
  capture := by intro t _ v; simp [initRS, lookup]
  run := rfl

end Lt
