import LabtechModel.Proofs.IntrRun
/-!
# M10: invariants that single primitives keep under a side condition

`DI`, `OI` and `RI` (`IntrDeps`, `IntrOnce`, `IntrResults`) are each kept by every primitive, but some
primitives need a side condition (`DG`, `OG`, `RG`): a fact about the state in which the primitive is
executed that the invariant does not hold on its own, and that the program establishes a few statements
earlier. `Guarded cfg p A G` says this of a block predicate `A` (`Always cfg p (DI P)`; for `RI`, `Always2`
with a transition fact). Its one working lemma is `Guarded.block`: a block of primitives is passed when
all its side conditions follow from a fact `S` that holds at its head and that every primitive of the
block keeps. (`OI` does not go through `Guarded`: its blocks restore `OS` as well, and `OG` is discharged
primitive by primitive in `Blk_triple`, `Blk_submitOne`, `Blk_serialHead`.)
The rest of the file is what the three invariants share besides: which primitive writes which field.
-/
namespace Lt

variable {cfg : Config} {p : Problem}

/-- `A` splits over `++`, and one primitive carries it on when its side condition holds; the side
    condition is asked for only while nothing has been raised (afterwards every primitive is a no-op) -/
structure Guarded (cfg : Config) (p : Problem) (A : List Prim → IS → Prop) (G : IS → Prim → Prop) : Prop
    extends Splits cfg p A where
  one : ∀ q s, A [] s → (s.rs.status = .running → G s q) → A [q] s

theorem Guarded.ofAlways {I : IS → Prop} {G : IS → Prim → Prop}
    (step : ∀ q s, I s → (s.rs.status = .running → G s q) → I (applyPrim cfg p q s)) :
    Guarded cfg p (Always cfg p I) G :=
  ⟨⟨always_append⟩, fun q s h hg => ⟨h, step q s h hg⟩⟩

namespace Guarded

variable {A : List Prim → IS → Prop} {G : IS → Prim → Prop} (g : Guarded cfg p A G)
include g

theorem cons {q : Prim} {ps : List Prim} {s : IS} (h : A [] s) (hg : s.rs.status = .running → G s q)
    (rest : A [] (applyPrim cfg p q s) → A ps (applyPrim cfg p q s)) : A (q :: ps) s :=
  g.seq (a := [q]) (g.one q s h hg) rest

/-- the side conditions of a block follow from a fact `S` that every primitive of the block keeps -/
theorem block (S : IS → Prop) : ∀ (ps : List Prim) (s : IS), A [] s → (s.rs.status = .running → S s) →
    (∀ q ∈ ps, ∀ s, S s → G s q ∧ ((applyPrim cfg p q s).rs.status = .running → S (applyPrim cfg p q s))) →
    A ps s := by
  intro ps
  induction ps with
  | nil => intro s h _ _; exact h
  | cons q ps ih =>
    intro s h hS hq
    refine g.cons h (fun hrun => (hq q List.mem_cons_self s (hS hrun)).1)
      (fun h' => ih _ h' ?_ (fun q' hq' => hq q' (List.mem_cons_of_mem _ hq')))
    intro hrun'
    exact (hq q List.mem_cons_self s (hS (running_of_step q s hrun'))).2 hrun'

theorem free (ps : List Prim) (s : IS) (hf : ∀ q ∈ ps, ∀ s, G s q) (h : A [] s) : A ps s :=
  g.block (fun _ => True) ps s h (fun _ => trivial) (fun q hq s _ => ⟨hf q hq s, fun _ => trivial⟩)

/-- once something has been raised nothing moves -/
theorem stopped (ps : List Prim) (s : IS) (hs : s.rs.status ≠ .running) (h : A [] s) : A ps s :=
  g.block (fun _ => False) ps s h (fun hrun => hs hrun) (fun _ _ _ hF => hF.elim)

end Guarded

/-- `d[k].remove(t)` on a dictionary of lists -/
theorem mem_upd_remove {f : Tid → List Tid} {k t x y : Tid} :
    y ∈ upd f k ((f k).filter (· ≠ t)) x ↔ y ∈ f x ∧ (x = k → y ≠ t) := by
  simp only [upd]
  split
  · next h => subst h; simp
  · next h => simp [h]

/-- primitives that write the trace or the serial runner's current submission, or add to the pending
    or the running submissions -/
def Prim.touchesWork : Prim → Bool
  | .enqueue _ | .procStart _ | .serialAppend _ | .consumeResults _ | .popFuture _ _ | .removeDone _
  | .popDeque | .serialRun | .regRunning _ => true
  | _ => false

/-- the others at most drop pending or running submissions -/
theorem applyPrim_work (q : Prim) (s : IS) (h : q.touchesWork = false) :
    (applyPrim cfg p q s).rs.trace = s.rs.trace ∧ (applyPrim cfg p q s).cur = s.cur ∧
    ((applyPrim cfg p q s).rs.queued).Sublist s.rs.queued ∧
    ((applyPrim cfg p q s).rs.running).Sublist s.rs.running := by
  unfold applyPrim
  split
  · cases q <;> simp [Prim.touchesWork] at h <;> simp only [stepPrim, keyErr] <;> (repeat' split) <;>
      simp [List.eraseP_sublist]
  · simp

def Prim.isStart : Prim → Bool
  | .startTask _ => true
  | _ => false

def Prim.touchesAct : Prim → Bool
  | .startTask _ | .removeActive _ => true
  | _ => false

def Prim.isUnblock : Prim → Bool
  | .unblockOne _ _ => true
  | _ => false

/-- of the four primitives that write the scheduler state, one writes the work list, two write the active
    set and one writes `task_to_pending_dependencies` -/
theorem applyPrim_ts_parts (q : Prim) (s : IS) :
    (q.isStart = false → (applyPrim cfg p q s).rs.ts.pending = s.rs.ts.pending) ∧
    (q.touchesAct = false → (applyPrim cfg p q s).rs.ts.active = s.rs.ts.active) ∧
    (q.isUnblock = false → (applyPrim cfg p q s).rs.ts.pendDeps = s.rs.ts.pendDeps) := by
  by_cases hts : q.touchesTS = false
  · rw [applyPrim_ts q s hts]; exact ⟨fun _ => rfl, fun _ => rfl, fun _ => rfl⟩
  by_cases hrun : s.rs.status = .running
  · rw [applyPrim_running q s hrun]
    cases q <;> first | exact absurd rfl hts | skip
    case startTask t =>
      refine ⟨(fun h => nomatch h), (fun h => nomatch h), fun _ => ?_⟩
      simp only [stepPrim]
      cases hs : startTask s.rs.ts t with
      | none => rfl
      | some ts' => obtain ⟨_, e⟩ := startTask_some _ _ _ hs; subst e; rfl
    all_goals
      refine ⟨?_, ?_, ?_⟩ <;> intro h <;> first | (cases h; done) | (simp only [stepPrim]; split <;> rfl)
  · rw [applyPrim_stopped q s hrun]; exact ⟨fun _ => rfl, fun _ => rfl, fun _ => rfl⟩

theorem applyPrim_pending (q : Prim) (s : IS) (h : q.isStart = false) :
    (applyPrim cfg p q s).rs.ts.pending = s.rs.ts.pending :=
  (applyPrim_ts_parts q s).1 h

theorem applyPrim_active (q : Prim) (s : IS) (h : q.touchesAct = false) :
    (applyPrim cfg p q s).rs.ts.active = s.rs.ts.active :=
  (applyPrim_ts_parts q s).2.1 h

theorem applyPrim_pendDeps (q : Prim) (s : IS) (h : q.isUnblock = false) :
    (applyPrim cfg p q s).rs.ts.pendDeps = s.rs.ts.pendDeps :=
  (applyPrim_ts_parts q s).2.2 h

/-- `start_task(t)` that does not raise: `t` moves from the work list to the active set -/
theorem startTask_facts (s : IS) (t : Tid) (hr1 : (applyPrim cfg p (Prim.startTask t) s).rs.status = .running) :
    t ∈ s.rs.ts.pending ∧ t ∉ (applyPrim cfg p (Prim.startTask t) s).rs.ts.pending ∧
    t ∈ (applyPrim cfg p (Prim.startTask t) s).rs.ts.active ∧
    (applyPrim cfg p (Prim.startTask t) s).rs.trace = s.rs.trace := by
  have hrun := running_of_step _ _ hr1
  rw [applyPrim_running _ _ hrun] at hr1 ⊢
  simp only [stepPrim] at hr1 ⊢
  cases hs : startTask s.rs.ts t with
  | none => rw [hs] at hr1; simp [keyErr] at hr1
  | some ts' =>
    obtain ⟨h1, h2⟩ := startTask_some _ _ _ hs
    subst h2
    exact ⟨h1, by simp, by simp, rfl⟩

/-- `SerialRunner.submit_task` is `executor.submit` followed by `future_to_task[future] = task` -/
theorem serialAppend_eq (t : Tid) (s : IS) :
    stepPrim cfg p (Prim.serialAppend t) s = stepPrim cfg p (Prim.regFuture t) (stepPrim cfg p (Prim.enqueue t) s) := rfl

end Lt
