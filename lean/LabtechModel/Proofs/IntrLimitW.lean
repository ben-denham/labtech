import LabtechModel.Proofs.IntrLimit
/-!
# M10: the global limit `max_workers` holds after EVERY primitive

`WOK`: at most `max_workers` live worker processes (`alive`) and at most `max_workers` entries in
the executor's running map (`running` + `zombies` = `_running_id_to_future_and_process`).
`_start_processes` computes `start_count` from the running map BEFORE it starts anything; between
two of its loop rounds every live worker is an entry of the running map (`WI`: `alive` is a sublist
of the running map's keys), so inside a round (`process.start()` done, entry not yet written) the
number of live workers is at most `len(running map) + 1 ≤ max_workers`.
The interrupt handlers start nothing: both counts only fall there.
-/
namespace Lt

variable {cfg : Config} {p : Problem}

/-- between two bookkeeping blocks of the main stream -/
structure WI (cfg : Config) (s : IS) : Prop where
  sub : s.alive.Sublist (s.rs.running.map Job.tid)
  cap : s.rs.running.length + s.zombies.length ≤ cfg.maxWorkers

/-- what holds after every primitive of every stream -/
def WOK (cfg : Config) (s : IS) : Prop :=
  s.alive.length ≤ cfg.maxWorkers ∧ s.rs.running.length + s.zombies.length ≤ cfg.maxWorkers

theorem WI.ok {s : IS} (h : WI cfg s) : WOK cfg s := by
  have h1 := h.sub.length_le
  have h2 := h.cap
  simp only [List.length_map] at h1
  exact ⟨by omega, h2⟩

theorem selN_length_add {α} (f : Nat → Bool) : ∀ (l : List α) (n : Nat),
    (selN f n l).length + (selN (fun i => !f i) n l).length = l.length := by
  intro l
  induction l with
  | nil => intro n; simp [selN, enumFrom]
  | cons x xs ih =>
    intro n
    have := ih (n + 1)
    rw [selN_cons, selN_cons]
    cases f n <;> simp <;> omega

theorem filter_notin_sel_sublist (f : Nat → Bool) (F : List Tid) : ∀ (l : List Job) (n : Nat),
    (∀ j ∈ selN f n l, j.tid ∈ F) →
    ((l.map Job.tid).filter (fun t => t ∉ F)).Sublist ((selN (fun i => !f i) n l).map Job.tid) := by
  intro l
  induction l with
  | nil => intro n _; simp [selN, enumFrom]
  | cons x xs ih =>
    intro n h
    rw [selN_cons] at h ⊢
    cases hf : f n with
    | true =>
      simp only [hf, if_true, List.mem_cons, forall_eq_or_imp] at h
      simp only [Bool.not_true, Bool.false_eq_true, if_false, List.map_cons, List.filter_cons, h.1,
        not_true_eq_false, decide_false]
      exact ih (n + 1) h.2
    | false =>
      simp only [hf, Bool.false_eq_true, if_false] at h
      simp only [Bool.not_false, if_true, List.map_cons, List.filter_cons]
      split
      · exact (ih (n + 1) h).cons_cons _
      · exact (ih (n + 1) h).cons _

theorem consume_cap (c : Choice) (s : IS) (hrun : s.rs.status = .running) :
    (applyPrim cfg p (Prim.consumeResults c) s).rs.running.length +
      (applyPrim cfg p (Prim.consumeResults c) s).zombies.length ≤ s.rs.running.length + s.zombies.length := by
  rw [applyPrim_running _ _ hrun]
  simp only [stepPrim, List.length_append, List.length_map]
  have h1 := selN_length_add c.finish s.rs.running 0
  have h2 := List.length_filter_le (fun j => p.dies j.tid) (finOf c s.rs.running)
  rw [finOf_eq] at h2
  rw [stayOf_eq, finOf_eq]
  omega

theorem WI_consume (c : Choice) (s : IS) (h : WI cfg s) : WI cfg (applyPrim cfg p (Prim.consumeResults c) s) := by
  by_cases hrun : s.rs.status = .running
  · refine ⟨?_, Nat.le_trans (consume_cap c s hrun) h.cap⟩
    rw [applyPrim_running _ _ hrun]
    simp only [stepPrim]
    have h1 : (s.alive.filter (fun t => t ∉ (finOf c s.rs.running).map Job.tid)).Sublist
        ((s.rs.running.map Job.tid).filter (fun t => t ∉ (finOf c s.rs.running).map Job.tid)) :=
      h.sub.filter _
    have h2 := filter_notin_sel_sublist c.finish ((finOf c s.rs.running).map Job.tid) s.rs.running 0
      (fun j hj => List.mem_map.mpr ⟨j, hj, rfl⟩)
    exact h1.trans h2
  · rw [applyPrim_stopped _ _ hrun]; exact h

theorem markDead_w (t : Tid) (s : IS) :
    (applyPrim cfg p (Prim.markDead t) s).alive = s.alive ∧
    (applyPrim cfg p (Prim.markDead t) s).rs.running = s.rs.running ∧
    (applyPrim cfg p (Prim.markDead t) s).zombies.length ≤ s.zombies.length := by
  by_cases hrun : s.rs.status = .running
  · rw [applyPrim_running _ _ hrun]
    simp only [stepPrim]
    split
    · exact ⟨rfl, rfl, (List.erase_sublist).length_le⟩
    · exact ⟨rfl, rfl, Nat.le_refl _⟩
  · rw [applyPrim_stopped _ _ hrun]; exact ⟨rfl, rfl, Nat.le_refl _⟩

/-- primitives after which `WI` holds again if it held before -/
def Prim.wSafe : Prim → Bool
  | .procStart _ | .regRunning _ | .stopOne _ => false
  | _ => true

theorem wSafe_of_noexec {q : Prim} (h : q.touchesExec = false) : q.wSafe = true := by
  cases q <;> first | rfl | exact Bool.noConfusion h

theorem WI_step (q : Prim) (s : IS) (hq : q.wSafe = true) (h : WI cfg s) : WI cfg (applyPrim cfg p q s) := by
  by_cases hw : q.touchesW = false
  · obtain ⟨e1, e2, e3⟩ := applyPrim_w q s hw
    exact ⟨by rw [e1, e2]; exact h.sub, by rw [e2, e3]; exact h.cap⟩
  · cases q <;> (try exact absurd rfl hw) <;> (try exact Bool.noConfusion hq)
    · exact WI_consume _ s h
    · next t =>
      obtain ⟨e1, e2, e3⟩ := markDead_w t s
      exact ⟨by rw [e1, e2]; exact h.sub, by rw [e2]; have := h.cap; omega⟩

/-- a block of the main stream: `WOK` after every primitive, `WI` again at its end -/
abbrev WBlock (cfg : Config) (p : Problem) : List Prim → IS → Prop := AlwaysTo cfg p (WOK cfg) (WI cfg)

theorem W_seq : BlockSeq cfg p (WI cfg) (WBlock cfg p) := AlwaysTo.isSeq (fun _ h => h.ok)

theorem W_safe (ps : List Prim) (s : IS) (hq : ∀ q ∈ ps, q.wSafe = true) (h : WI cfg s) : WBlock cfg p ps s :=
  AlwaysTo.of_always (fun _ h => h.ok) (always_of_step ps s (fun q hq' s h => WI_step q s (hq q hq') h) h)

theorem WBlock_startPrims : ∀ (go stay : List Job) (s : IS), s.rs.status = .running →
    s.rs.queued = go ++ stay → s.alive.Sublist (s.rs.running.map Job.tid) →
    s.rs.running.length + s.zombies.length + go.length ≤ cfg.maxWorkers → WBlock cfg p (startPrims go) s := by
  intro go
  induction go with
  | nil =>
    intro stay s _ _ hsub hcap
    exact W_seq.nil s ⟨hsub, by simpa using hcap⟩
  | cons j go ih =>
    intro stay s hrun hq hsub hcap
    have hfind : s.rs.queued.find? (hasTid j.tid) = some j := by rw [hq]; simp [hasTid]
    have herase : s.rs.queued.eraseP (hasTid j.tid) = go ++ stay := by rw [hq]; simp [hasTid]
    have hlen := hsub.length_le
    simp only [List.length_map, List.length_cons] at hlen hcap
    rw [startPrims_cons]
    -- one round: `WOK` in its three states, then the rest from the state it ends in; all computed
    refine W_seq.seq ⟨?_, ?_⟩ (ih stay _ ?_ ?_ ?_ ?_) <;>
      simp only [Always, runPrims_cons, runPrims_nil, applyPrim_running, hrun, stepPrim, hfind, herase]
    · simp only [WOK, List.length_append, List.length_singleton]
      omega
    · exact ⟨by simpa [forkSnap_tid] using hsub.append (List.Sublist.refl [j.tid]),
        by simp only [List.length_append, List.length_singleton]; omega⟩
    · simpa [forkSnap_tid] using hsub.append (List.Sublist.refl [j.tid])
    · simp only [List.length_append, List.length_singleton]; omega

/-- `_start_processes` from a state with `WI`, whatever its status -/
theorem WBlock_startProcesses (s : IS) (h : WI cfg s) : WBlock cfg p (startProcessesPrims cfg s) s := by
  by_cases hrun : s.rs.status = .running
  · have hlen := takeN_length_le (cfg.maxWorkers - (s.rs.running.length + s.zombies.length)) s.rs.queued
    have hcap := h.cap
    exact WBlock_startPrims _ (takeN (cfg.maxWorkers - (s.rs.running.length + s.zombies.length)) s.rs.queued).2
      s hrun (takeN_append _ _).symm h.sub (by omega)
  · exact AlwaysTo.stopped (fun _ h => h.ok) _ hrun h

theorem WBlock_submitOne (s : IS) (t : Tid) (h : WI cfg s) : WBlock cfg p (submitOnePrims cfg p s t) s := by
  rw [submitOnePrims]
  split
  · exact W_safe _ s (by simp [Prim.wSafe]) h
  · have a := W_safe (cfg := cfg) (p := p) [Prim.startTask t, Prim.enqueue t] s (by simp [Prim.wSafe]) h
    have ab := W_seq.seq a (WBlock_startProcesses _ a.2)
    exact W_seq.seq ab (W_safe [Prim.regFuture t] _ (by simp [Prim.wSafe]) ab.2)

theorem WBlock_popYield (req : List Tid) (t : Tid) (o : Outcome) (s : IS) (h : WI cfg s) :
    WBlock cfg p (Prim.popFuture t (some o) :: yieldPrims cfg req s.rs.ts t o) s :=
  W_safe _ s (fun q hq => by
    rcases List.mem_cons.mp hq with rfl | hq
    · rfl
    · exact wSafe_of_noexec (yieldPrims_noexec req _ t o q hq)) h

theorem WBlock_wait (req : List Tid) : ∀ (c : Choice) (s : IS), WI cfg s → WBlock cfg p (waitPrims cfg p req c s) s :=
  W_seq.wait (fun _ s => W_safe _ s (by simp [Prim.wSafe])) (fun _ s _ _ _ => W_safe _ s (by simp [Prim.wSafe]))
    (fun _ => WBlock_popYield req) (fun _ c s => W_safe _ s (forall_consume_dead rfl (fun _ => rfl)))
    (fun _ => WBlock_startProcesses)
    (fun _ => W_seq.done (fun t s => W_safe _ s (by simp [Prim.wSafe])) (WBlock_popYield req))

theorem always_W_iteration (req : List Tid) (c : Choice) (s : IS) (h : WI cfg s) :
    Always cfg p (WOK cfg) (iterationPrims cfg p req c s) s ∧
    WI cfg (runPrims cfg p (iterationPrims cfg p req c s) s) := by
  by_cases hrun : s.rs.status = .running
  · exact W_seq.iteration (fun s h _ => W_seq.submit WBlock_submitOne _ s h) (fun c s h _ => WBlock_wait req c s h) c s h hrun
  · exact AlwaysTo.stopped (fun _ h => h.ok) _ hrun h

theorem always_W_main (req : List Tid) (sched : List Choice) (s : IS) (h : WI cfg s) :
    Always cfg p (WOK cfg) (mainStream cfg p req sched s) s :=
  (W_seq.main (fun c s h _ => always_W_iteration req c s h) sched s h).1

theorem WI_init (store : Store) (fuel : Nat) : WI cfg (initIS cfg p store fuel) :=
  ⟨by simp [initIS, initRS], by simp [initIS, initRS]⟩

theorem stateAt_WOK (store : Store) (fuel : Nat) (sched : List Choice) (k : Nat) :
    WOK cfg (stateAt cfg p store fuel sched k) :=
  (always_W_main (reqTids p) sched _ (WI_init store fuel)).prefix k

theorem WOK_step_nolaunch (q : Prim) (hq : q.launches = false) (s : IS) (h : WOK cfg s) :
    WOK cfg (applyPrim cfg p q s) := by
  suffices (applyPrim cfg p q s).alive.length ≤ s.alive.length ∧
      (applyPrim cfg p q s).rs.running.length + (applyPrim cfg p q s).zombies.length
        ≤ s.rs.running.length + s.zombies.length from ⟨Nat.le_trans this.1 h.1, Nat.le_trans this.2 h.2⟩
  by_cases hw : q.touchesW = false
  · obtain ⟨e1, e2, e3⟩ := applyPrim_w q s hw
    rw [e1, e2, e3]; exact ⟨Nat.le_refl _, Nat.le_refl _⟩
  · by_cases hrun : s.rs.status = .running
    · cases q <;> (try exact absurd rfl hw) <;> (try exact Bool.noConfusion hq)
      · next c =>
        refine ⟨?_, consume_cap c s hrun⟩
        rw [applyPrim_running _ _ hrun]
        exact List.length_filter_le _ _
      · next t =>
        obtain ⟨e1, e2, e3⟩ := markDead_w t s
        rw [e1, e2]; exact ⟨Nat.le_refl _, by omega⟩
      · next t =>
        rw [applyPrim_running _ _ hrun]
        simp only [stepPrim]
        have h1 : (s.rs.running.eraseP (hasTid t)).length ≤ s.rs.running.length :=
          (List.eraseP_sublist).length_le
        have h2 := List.length_filter_le (fun x => decide (x ≠ t)) s.zombies
        refine ⟨?_, by omega⟩
        split
        · exact List.length_filter_le _ _
        · exact Nat.le_refl _
    · rw [applyPrim_stopped _ _ hrun]; exact ⟨Nat.le_refl _, Nat.le_refl _⟩

theorem always_W_handler (req : List Tid) (ds : List Choice) (s : IS) (h : WOK cfg s) :
    Always cfg p (WOK cfg) (handlerPrims cfg p req ds s) s :=
  always_handler_nolaunch WOK_step_nolaunch req ds s h

theorem always_W_second (req : List Tid) (s : IS) (h : WOK cfg s) :
    Always cfg p (WOK cfg) (secondPrims cfg p req s) s :=
  always_second_nolaunch WOK_step_nolaunch req s h

theorem idleSafe_of_nolaunch {q : Prim} (h : q.launches = false) : q.idleSafe = true := by
  cases q <;> first | rfl | exact Bool.noConfusion h

theorem always_Idle_handler (req : List Tid) (ds : List Choice) (s : IS) (h : Idle s) :
    Always cfg p Idle (handlerPrims cfg p req ds s) s :=
  always_handler_nolaunch (fun q hq s => Idle_step q s (idleSafe_of_nolaunch hq)) req ds s h

theorem always_Idle_second (req : List Tid) (s : IS) (h : Idle s) :
    Always cfg p Idle (secondPrims cfg p req s) s :=
  always_second_nolaunch (fun q hq s => Idle_step q s (idleSafe_of_nolaunch hq)) req s h

end Lt
