import LabtechModel.Proofs.InvRef
/-!
# The load-or-execute decision is the one taken at plan time (C03), whatever fails (no hypothesis)

`FlagInv`: in every reachable state of every run (any problem, configuration, cache pre-state, fuel and
schedule; failures and deaths allowed; no acyclicity needed)
* every `load t` record belongs to a task cached beforehand (`useCache cfg p store0 t = true`), every
  `exec t …` record to one that was not;
* every worker record belongs to a submitted task; every delivered task whose worker did not die has
  a worker record;
* while the coordinator is running: the store entry of a task that has not been run yet is still the
  one of the cache pre-state (only a task's own execution writes its entry), and the `use_cache`
  flag computed at submit time equals the one computed at plan time.

It is walked along a run with the inductions of `Proofs/RunSteps.lean` and as a rider of the master
invariant's submit phase (`submitPhase_inv`).
-/
namespace Lt
variable {cfg : Config} {p : Problem} {P : TS} {store0 : Store} {req : List Tid}

/-- does the worker of `t` die without reporting: never for the serial runner (no worker process) -/
def diesIn (cfg : Config) (p : Problem) (t : Tid) : Bool :=
  if cfg.backend = .serial then false else p.dies t

theorem diesIn_serial (cfg : Config) (p : Problem) (t : Tid) (hb : cfg.backend = .serial) :
    diesIn cfg p t = false := by simp [diesIn, hb]

theorem diesIn_process (cfg : Config) (p : Problem) (t : Tid) (hb : cfg.backend ≠ .serial) :
    diesIn cfg p t = p.dies t := by simp [diesIn, hb]

/-- the trace part: holds in every reachable state -/
structure FlagTr (cfg : Config) (p : Problem) (store0 : Store) (extra : List Tid) (rs : RS) : Prop where
  loadOK : ∀ t, Ev.load t ∈ rs.trace → useCache cfg p store0 t = true
  execOK : ∀ t seen, Ev.exec t seen ∈ rs.trace → useCache cfg p store0 t = false
  subOK : ∀ t uc, Ev.submit t uc ∈ rs.trace → uc = useCache cfg p store0 t
  ranSubm : ∀ t ∈ ranOf rs.trace, t ∈ submittedOf rs.trace
  ranAll : ∀ t, (t ∈ yielded rs ∨ t ∈ extra) → diesIn cfg p t = false → t ∈ ranOf rs.trace

/-- the state part: holds while the coordinator is running -/
structure FlagSt (cfg : Config) (p : Problem) (store0 : Store) (extra : List Tid) (rs : RS) : Prop where
  frame : ∀ t, t ∉ yielded rs → t ∉ extra → lookup t rs.store = lookup t store0
  flag : ∀ j ∈ rs.queued ++ rs.running, j.useCache = useCache cfg p store0 j.tid

def FlagInv (cfg : Config) (p : Problem) (store0 : Store) (extra : List Tid) (rs : RS) : Prop :=
  FlagTr cfg p store0 extra rs ∧ (rs.status = .running → FlagSt cfg p store0 extra rs)

theorem quiet_no_submit {l : List Ev} (hq : Quiet l) (t : Tid) (uc : Bool) (h : Ev.submit t uc ∈ l) : False := by
  have := (hq _ h).2
  simp [evSubmit] at this

/-- extending the trace by events that are no worker records -/
theorem FlagTr.noran {extra extra' : List Tid} {rs rs' : RS}
    (h : FlagTr cfg p store0 extra rs) (l : List Ev) (htr : rs'.trace = rs.trace ++ l)
    (hnr : ∀ e ∈ l, evRan e = none)
    (hsm : ∀ t uc, Ev.submit t uc ∈ l → uc = useCache cfg p store0 t)
    (hsub : ∀ t, (t ∈ yielded rs' ∨ t ∈ extra') → (t ∈ yielded rs ∨ t ∈ extra)) :
    FlagTr cfg p store0 extra' rs' where
  subOK := by
    intro t uc ht
    rw [htr] at ht
    rcases List.mem_append.mp ht with h1 | h1
    · exact h.subOK t uc h1
    · exact hsm t uc h1
  loadOK := by
    intro t ht
    rw [htr] at ht
    rcases List.mem_append.mp ht with h1 | h1
    · exact h.loadOK t h1
    · have := hnr _ h1; simp [evRan] at this
  execOK := by
    intro t seen ht
    rw [htr] at ht
    rcases List.mem_append.mp ht with h1 | h1
    · exact h.execOK t seen h1
    · have := hnr _ h1; simp [evRan] at this
  ranSubm := by
    intro t ht
    rw [htr, ranOf_append_noran _ _ hnr] at ht
    rw [htr]
    exact submittedOf_mono _ _ _ (h.ranSubm t ht)
  ranAll := by
    intro t ht hd
    rw [htr, ranOf_append_noran _ _ hnr]
    exact h.ranAll t (hsub t ht) hd

theorem startProcesses_flag {extra : List Tid} {rs : RS}
    (h : FlagInv cfg p store0 extra rs) : FlagInv cfg p store0 extra (startProcesses cfg rs) := by
  obtain ⟨go, stay, happ, hsp⟩ := startProcesses_shape cfg rs
  rw [hsp]
  have hq := quiet_starts (go.map (snapF cfg rs))
  refine ⟨h.1.noran _ rfl (noran_starts _) (fun t uc ht => (quiet_no_submit hq t uc ht).elim) ?_, fun hrun => ?_⟩
  · intro t ht
    simp only [yielded] at ht ⊢
    rw [yieldedOf_append_quiet _ _ hq] at ht
    exact ht
  · have hs := h.2 hrun
    refine ⟨?_, ?_⟩
    · intro t ht hte
      simp only [yielded] at ht
      rw [yieldedOf_append_quiet _ _ hq] at ht
      exact hs.frame t ht hte
    · intro j' hj'
      have hj'' : j' ∈ stay ∨ j' ∈ rs.running ∨ j' ∈ go.map (snapF cfg rs) := by
        simpa [List.mem_append] using hj'
      rcases hj'' with h1 | h1 | h1
      · exact hs.flag j' (by rw [← happ]; simp [h1])
      · exact hs.flag j' (by simp [h1])
      · obtain ⟨j, hj, rfl⟩ := List.mem_map.mp h1
        have := hs.flag j (by rw [← happ]; simp [hj])
        simp only [snapF]
        split <;> exact this

theorem submitStep_flag {rs : RS} {t : Tid}
    (hc : Core p P rs) (hrun0 : rs.status = .running) (hf : FlagInv cfg p store0 [] rs)
    (ht : t ∈ rs.ts.pending) :
    FlagInv cfg p store0 [] (submitTask cfg p { rs with ts := startedTS rs.ts t } t) := by
  have htY : t ∉ yielded rs := hc.ts.disjPY t ht
  have hY : yieldedOf (rs.trace ++ [Ev.submit t (useCache cfg p rs.store t)]) = yieldedOf rs.trace := by
    simp [yieldedOf, evYield]
  have hbase : FlagInv cfg p store0 []
      (submitState rs t (newJob cfg p rs t) (useCache cfg p rs.store t)) := by
    refine ⟨hf.1.noran [Ev.submit t (useCache cfg p rs.store t)] rfl ?_ ?_ ?_, fun hrun => ?_⟩
    · intro e he; simp only [List.mem_singleton] at he; subst he; rfl
    · intro t' uc' he
      simp only [List.mem_singleton, Ev.submit.injEq] at he
      obtain ⟨h1, h2⟩ := he
      subst h1; subst h2
      exact useCache_congr cfg p _ _ t' ((hf.2 hrun0).frame t' htY (by simp))
    · intro x hx
      simp only [yielded] at hx ⊢
      rw [hY] at hx
      exact hx
    · have hs := hf.2 hrun
      refine ⟨?_, ?_⟩
      · intro x hx hxe
        simp only [yielded] at hx
        rw [hY] at hx
        exact hs.frame x hx hxe
      · intro j' hj'
        have hj'' : j' ∈ rs.queued ∨ j' = newJob cfg p rs t ∨ j' ∈ rs.running := by
          simpa [submitState, List.mem_append] using hj'
        rcases hj'' with h1 | h1 | h1
        · exact hs.flag j' (by simp [h1])
        · subst h1
          exact useCache_congr cfg p _ _ t (hs.frame t htY (by simp))
        · exact hs.flag j' (by simp [h1])
  simp only [submitTask]
  split
  · exact hbase
  · exact startProcesses_flag hbase

theorem yieldStep_flag {extra : List Tid} {rs : RS} {t : Tid} (o : Outcome) (hP : PI P)
    (hc : Core p P rs) (he : Exec cfg P (t :: extra) rs) (hrun : rs.status = .running)
    (hf : FlagInv cfg p store0 (t :: extra) rs) :
    FlagInv cfg p store0 extra
      (processYield cfg req { rs with futs := rs.futs.filter (· ≠ t) } t o) := by
  have htF : t ∈ rs.futs := he.perm.mem_iff.mp (by simp)
  have htA : t ∈ rs.ts.active := (hc.futsAct t).mp htF
  obtain ⟨s', rem, hct, _⟩ := completeTask_TSInv _ hP _ rs.ts t hc.ts htA
  obtain ⟨_, _, h3, h4, ⟨tail, htr, htail⟩, _, _⟩ :=
    processYield_shape cfg req { rs with futs := rs.futs.filter (· ≠ t) } t o s' rem hct hrun
  have hstore := processYield_store cfg req { rs with futs := rs.futs.filter (· ≠ t) } t o
  have hyld := processYield_yielded cfg req { rs with futs := rs.futs.filter (· ≠ t) } t o
  generalize processYield cfg req { rs with futs := rs.futs.filter (· ≠ t) } t o = rs' at *
  simp only at h3 h4 htr hstore hyld
  have hyld' : yielded rs' = yielded rs ++ [t] := hyld
  have hs := hf.2 hrun
  refine ⟨hf.1.noran (Ev.yield t o :: tail) htr ?_ ?_ ?_, fun _ => ⟨?_, ?_⟩⟩
  · intro e hemem
    rcases List.mem_cons.mp hemem with h | h
    · subst h; rfl
    · obtain ⟨a, b, rfl⟩ := htail e h; rfl
  · intro t' uc' hemem
    rcases List.mem_cons.mp hemem with h | h
    · cases h
    · obtain ⟨a, b, hab⟩ := htail _ h; cases hab
  · intro x hx
    rw [hyld'] at hx
    simpa [or_assoc] using hx
  · intro x hx hxe
    rw [hyld'] at hx
    simp only [List.mem_append, List.mem_singleton, not_or] at hx
    rw [hstore]
    apply hs.frame x hx.1
    simp only [List.mem_cons, not_or]
    exact ⟨hx.2, hxe⟩
  · rw [h3, h4]; exact hs.flag

theorem processYields_flag (hP : PI P) (ys : List (Tid × Outcome)) (rs : RS) (hc : Core p P rs)
    (he : rs.status = .running → Exec cfg P (ys.map Prod.fst) rs)
    (hr : FlagInv cfg p store0 (ys.map Prod.fst) rs) :
    FlagInv cfg p store0 [] (processYields cfg req ys rs) :=
  (processYields_ind
    (fun ys rs => Core p P rs ∧ (rs.status = .running → Exec cfg P (ys.map Prod.fst) rs) ∧
      FlagInv cfg p store0 (ys.map Prod.fst) rs)
    (fun t o rest rs hrun h =>
      let ⟨hc', he', _⟩ := yieldStep_inv (t := t) (extra := rest.map Prod.fst) req o hP h.1 (h.2.1 hrun) hrun
      ⟨hc', he', yieldStep_flag (req := req) (t := t) (extra := rest.map Prod.fst) o hP h.1 (h.2.1 hrun) hrun h.2.2⟩)
    (fun _ _ hnr h => ⟨h.1, fun hrun => absurd hrun hnr,
      h.2.2.1.noran [] (by simp) (by simp) (by simp) (fun x hx => hx.imp id (by simp)),
      fun hrun => absurd hrun hnr⟩)
    ys rs ⟨hc, he, hr⟩).2.2

theorem runEvents_load (p : Problem) (ts : TS) (j : Job) (t : Tid) (h : Ev.load t ∈ runEvents p ts j) :
    t = j.tid ∧ j.useCache = true := by
  simp only [runEvents] at h
  split at h
  · next hu => simp at h; exact ⟨h, hu⟩
  · simp at h

theorem runEvents_exec (p : Problem) (ts : TS) (j : Job) (t : Tid) (seen : List (Option Val))
    (h : Ev.exec t seen ∈ runEvents p ts j) : t = j.tid ∧ j.useCache = false := by
  simp only [runEvents] at h
  split at h
  · simp at h
  · next hu => simp at h; exact ⟨h.1, by simpa using hu⟩

theorem ranOf_flatten_mem (p : Problem) (ts : TS) : ∀ (js : List Job) (j : Job), j ∈ js →
    p.dies j.tid = false → j.tid ∈ ranOf ((js.map (jobEvents p ts)).flatten) := by
  intro js
  induction js with
  | nil => intro j h; simp at h
  | cons a js ih =>
    intro j hj hd
    simp only [List.map_cons, List.flatten_cons, ranOf_append, List.mem_append]
    rcases List.mem_cons.mp hj with h | h
    · subst h
      left
      rw [ranOf_jobEvents, hd]
      simp
    · right; exact ih j h hd

/-- the flag invariant along a wait up to its yields: the jobs `fin` leave the executor (`j'`: what ran
    for `j`, possibly with a snapshot filled in), `l` holds their worker records -/
theorem preWait_flag {rs rs' : RS}
    (hc : Core p P rs) (he : Exec cfg P [] rs) (hrun : rs.status = .running)
    (hf : FlagInv cfg p store0 [] rs) (fin : List Job) (l : List Ev)
    (htr : rs'.trace = rs.trace ++ l) (hq : Quiet l)
    (hfin : ∀ j ∈ fin, j ∈ rs.queued ++ rs.running)
    (hev : ∀ e ∈ l, evRan e = none ∨ ∃ j ∈ fin, ∃ j' : Job, j'.tid = j.tid ∧ j'.useCache = j.useCache ∧
      e ∈ runEvents p rs.ts j')
    (hall : ∀ j ∈ fin, diesIn cfg p j.tid = false → j.tid ∈ ranOf l)
    (hsto : ∀ t, t ∉ fin.map Job.tid → lookup t rs'.store = lookup t rs.store)
    (hjobs : ∀ j ∈ rs'.queued ++ rs'.running, j ∈ rs.queued ++ rs.running) :
    FlagInv cfg p store0 (fin.map Job.tid) rs' := by
  have hs := hf.2 hrun
  have hY : yielded rs' = yielded rs := by
    simp only [yielded]; rw [htr, yieldedOf_append_quiet _ _ hq]
  -- a worker record in `l` belongs to a job of `fin` and carries its flag
  have hrec : ∀ e ∈ l, ∀ t, evRan e = some t → ∃ j ∈ fin, t = j.tid ∧ ∃ j' : Job, j'.tid = j.tid ∧
      j'.useCache = useCache cfg p store0 j.tid ∧ e ∈ runEvents p rs.ts j' := by
    intro e hel t ht
    rcases hev e hel with h | ⟨j, hj, j', h1, h2, h3⟩
    · rw [h] at ht; cases ht
    · refine ⟨j, hj, ?_, j', h1, h2.trans (hs.flag j (hfin j hj)), h3⟩
      rcases runEvents_cases _ _ _ _ h3 with rfl | rfl <;> simp [evRan] at ht <;> rw [← ht, h1]
  refine ⟨⟨?_, ?_, ?_, ?_, ?_⟩, fun _ => ⟨?_, fun j hj => hs.flag j (hjobs j hj)⟩⟩
  · intro t ht
    rw [htr] at ht
    rcases List.mem_append.mp ht with h1 | h1
    · exact hf.1.loadOK t h1
    · obtain ⟨j, _, rfl, j', h2, h3, h4⟩ := hrec _ h1 t rfl
      obtain ⟨_, h5⟩ := runEvents_load _ _ _ _ h4
      rw [← h3]; exact h5
  · intro t seen ht
    rw [htr] at ht
    rcases List.mem_append.mp ht with h1 | h1
    · exact hf.1.execOK t seen h1
    · obtain ⟨j, _, rfl, j', h2, h3, h4⟩ := hrec _ h1 t rfl
      obtain ⟨_, h5⟩ := runEvents_exec _ _ _ _ _ h4
      rw [← h3]; exact h5
  · intro t uc ht
    rw [htr] at ht
    rcases List.mem_append.mp ht with h1 | h1
    · exact hf.1.subOK t uc h1
    · exact (quiet_no_submit hq t uc h1).elim
  · intro t ht
    rw [htr, ranOf_append] at ht
    rw [htr]
    apply submittedOf_mono
    rcases List.mem_append.mp ht with h | h
    · exact hf.1.ranSubm t h
    · obtain ⟨e, hel, hte⟩ := List.mem_filterMap.mp h
      obtain ⟨j, hj, rfl, _⟩ := hrec e hel t hte
      exact (hc.subAct _).mpr (Or.inl (he.job_active hc j (hfin j hj)))
  · intro t ht hd
    rw [htr, ranOf_append, List.mem_append]
    rw [hY] at ht
    rcases ht with h | h
    · exact Or.inl (hf.1.ranAll t (Or.inl h) hd)
    · obtain ⟨j, hj, rfl⟩ := List.mem_map.mp h
      exact Or.inr (hall j hj hd)
  · intro t ht hte
    rw [hY] at ht
    rw [hsto t hte]
    exact hs.frame t ht (by simp)

theorem serialPre_flag {rs : RS}
    (hc : Core p P rs) (he : Exec cfg P [] rs) (hrun : rs.status = .running)
    (hf : FlagInv cfg p store0 [] rs) (j : Job) (rest : List Job) (hq : rs.queued = j :: rest) :
    FlagInv cfg p store0 [j.tid] (serialPre p rs j rest) := by
  refine preWait_flag (rs' := serialPre p rs j rest) hc he hrun hf [j] (serialEvs p rs j)
    (serialPre_trace p rs j rest) (serialEvs_quiet p rs j) (by intro j' hj'; rw [hq]; simp_all) ?_ ?_ ?_ ?_
  · intro e he'
    simp only [serialEvs, List.mem_append, List.mem_cons, List.not_mem_nil, or_false] at he'
    rcases he' with (rfl | rfl) | h
    · exact Or.inl rfl
    · exact Or.inl rfl
    · exact Or.inr ⟨j, by simp, { j with snap := some rs.results }, rfl, rfl, h⟩
  · intro j' hj' _
    rw [List.mem_singleton.mp hj', ranOf_serialEvs]; simp
  · intro t hte
    exact saveIfRan_lookup_ne p rs.store _ _ t (by simpa using hte)
  · intro j' hj'
    rw [hq]
    exact List.mem_cons_of_mem _ hj'

theorem waitSerial_flag {rs : RS}
    (hP : PI P) (hc : Core p P rs) (he : Exec cfg P [] rs) (hrun : rs.status = .running)
    (hf : FlagInv cfg p store0 [] rs) :
    FlagInv cfg p store0 [] (waitSerial cfg p req rs) := by
  cases hq : rs.queued with
  | nil =>
    rw [waitSerial_nil cfg p req rs hq]
    have hquiet := quiet_waitEnter (rs.queued.map Job.tid) []
    have hY : yieldedOf (rs.trace ++ [Ev.waitEnter (rs.queued.map Job.tid) []]) = yieldedOf rs.trace :=
      yieldedOf_append_quiet _ _ hquiet
    refine ⟨hf.1.noran [Ev.waitEnter (rs.queued.map Job.tid) []] rfl ?_
      (fun t uc ht => (quiet_no_submit hquiet t uc ht).elim) ?_, fun h => ⟨?_, (hf.2 h).flag⟩⟩
    · intro e he'; simp only [List.mem_singleton] at he'; subst he'; rfl
    · intro x hx
      simp only [yielded] at hx ⊢
      rw [hY] at hx
      exact hx
    · intro x hx hxe
      simp only [yielded] at hx
      rw [hY] at hx
      exact (hf.2 h).frame x hx hxe
  | cons j rest =>
    rw [waitSerial_cons cfg p req rs j rest hq]
    obtain ⟨hcA, heA⟩ := serialPre_inv hP hc he j rest hq
    exact yieldStep_flag _ hP hcA heA hrun (serialPre_flag hc he hrun hf j rest hq)

theorem procPre_flag {rs : RS} (c : Choice)
    (hb : cfg.backend ≠ .serial)
    (hc : Core p P rs) (he : Exec cfg P [] rs) (hrun : rs.status = .running)
    (hf : FlagInv cfg p store0 [] rs) :
    FlagInv cfg p store0 ((finJobs c rs).map Job.tid) (procPre p c rs) := by
  have hran : ranOf (procEvs p c rs) = ranOf (((finJobs c rs).map (jobEvents p rs.ts)).flatten) := by
    rw [procEvs, ranOf_append]; rfl
  refine preWait_flag (rs' := procPre p c rs) hc he hrun hf (finJobs c rs) (procEvs p c rs)
    (procPre_trace p c rs) (procEvs_quiet p c rs)
    (fun j hj => List.mem_append_right _ (finJobs_mem c rs j hj)) ?_ ?_ ?_ ?_
  · intro e he'
    simp only [procEvs, List.mem_append, List.mem_singleton] at he'
    rcases he' with rfl | h
    · exact Or.inl rfl
    · obtain ⟨es, hes, hm⟩ := List.mem_flatten.mp h
      obtain ⟨j, hj, rfl⟩ := List.mem_map.mp hes
      exact Or.inr ⟨j, hj, j, rfl, rfl, jobEvents_subset _ _ _ _ hm⟩
  · intro j hj hd
    rw [diesIn_process cfg p _ hb] at hd
    rw [hran]
    exact ranOf_flatten_mem p rs.ts _ j hj hd
  · intro t hte
    exact saveAll_lookup_ne p rs.ts t _ _ (fun j hj heq => hte (List.mem_map.mpr ⟨j, hj, heq.symm⟩))
  · intro j' hj'
    exact (List.mem_append.mp hj').elim (List.mem_append_left _)
      (fun h => List.mem_append_right _ (stayJobs_mem c rs j' h))

theorem FlagInv.perm_extra {extra extra' : List Tid} {rs : RS}
    (h : FlagInv cfg p store0 extra rs) (hp : ∀ t, t ∈ extra ↔ t ∈ extra') :
    FlagInv cfg p store0 extra' rs :=
  ⟨⟨h.1.loadOK, h.1.execOK, h.1.subOK, h.1.ranSubm, fun t ht hd => h.1.ranAll t (ht.imp id (hp t).mpr) hd⟩,
   fun hrun => ⟨fun t ht hte => (h.2 hrun).frame t ht (fun hx => hte ((hp t).mp hx)), (h.2 hrun).flag⟩⟩

theorem waitProcess_flag {rs : RS}
    (hP : PI P) (c : Choice) (hb : cfg.backend ≠ .serial)
    (hc : Core p P rs) (he : Exec cfg P [] rs) (hrun : rs.status = .running)
    (hf : FlagInv cfg p store0 [] rs) :
    FlagInv cfg p store0 [] (waitProcess cfg p req c rs) := by
  obtain ⟨hwp, hcA, heA, hperm, _⟩ := waitProcess_explicit req c hb hc he
  rw [hwp]
  obtain ⟨hcB, heB⟩ := startProcesses_inv hP hb hcA heA
  have hfB := startProcesses_flag (procPre_flag c hb hc he hrun hf)
  exact processYields_flag hP _ _ hcB (fun _ => heB.perm_extra hperm.symm)
    (hfB.perm_extra (fun t => hperm.symm.mem_iff))

theorem iteration_flag {rs : RS}
    (hP : PI P) (c : Choice) (h : Reach cfg p P rs) (hrun : rs.status = .running)
    (hf : FlagInv cfg p store0 [] rs) :
    FlagInv cfg p store0 [] (iteration cfg p req c rs) := by
  obtain ⟨hc, he, hst, _, hfS⟩ := submitPhase_inv hP
    (fun rs => rs.status = .running ∧ FlagInv cfg p store0 [] rs)
    (fun _ _ hc _ ht h => ⟨by rw [submitTask_status]; exact h.1, submitStep_flag hc h.1 h.2 ht⟩)
    h hrun ⟨hrun, hf⟩
  simp only [iteration, hst]
  split
  · exact waitSerial_flag hP hc he hst hfS
  · next hb => exact waitProcess_flag hP c hb hc he hst hfS

theorem initRS_flag (cfg : Config) (p : Problem) (store : Store) (fuel : Nat) :
    FlagInv cfg p store [] (initRS cfg p store fuel) := by
  refine ⟨⟨?_, ?_, ?_, ?_, ?_⟩, fun _ => ⟨fun _ _ _ => rfl, ?_⟩⟩
  · intro t h; simp [initRS] at h
  · intro t seen h; simp [initRS] at h
  · intro t uc h; simp [initRS] at h
  · intro t h; simp [initRS, ranOf] at h
  · intro t h; simp [initRS, yielded, yieldedOf] at h
  · intro j hj; simp [initRS] at hj

theorem loopHead_flag (cfg : Config) (p : Problem) (store : Store) (fuel : Nat) (sched : List Choice) :
    FlagInv cfg p store [] (loopHead cfg p store fuel sched) :=
  (runLoop_ind (fun rs => Reach cfg p (plan cfg p store fuel) rs ∧ FlagInv cfg p store [] rs)
    (fun c _ hrun _ h => ⟨iteration_reach _ (plan_PI cfg p store fuel) c h.1 hrun,
      iteration_flag (plan_PI cfg p store fuel) c h.1 hrun h.2⟩)
    sched _ ⟨initRS_reach cfg p store fuel, initRS_flag cfg p store fuel⟩).2

end Lt
