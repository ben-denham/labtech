import LabtechModel.Proofs.IntrSafe
/-!
# M10: which worker processes are waited for

`Tr`: every live worker is an entry of the executor's running map, every entry of the running map
belongs to a tracked, uncancelled, unfinished future. It holds at every loop head; it does NOT hold
in the windows between `process.start()` and the end of that process's bookkeeping (finding F14a; the
exact window is in `IntrWindow`). From a state with `Tr` the handlers keep `Tr` after every primitive, so
when the drain loop exits (`futs = []`) no worker is alive (`IntrDrain`). Here: `Tr`, and each primitive
of the handlers keeps it.
-/
namespace Lt

variable {cfg : Config} {p : Problem}

/-- `finOf` / `stayOf` with the first index as a parameter (for inductions): the choice partitions the running list -/
def selN {α} (f : Nat → Bool) (n : Nat) (l : List α) : List α := ((enumFrom n l).filter (fun ij => f ij.1)).map (·.2)

theorem selN_cons {α} (f : Nat → Bool) (n : Nat) (x : α) (xs : List α) :
    selN f n (x :: xs) = if f n then x :: selN f (n + 1) xs else selN f (n + 1) xs := by
  simp only [selN, enumFrom, List.filter_cons]
  split <;> simp

theorem finOf_eq (c : Choice) (l : List Job) : finOf c l = selN c.finish 0 l := rfl
theorem stayOf_eq (c : Choice) (l : List Job) : stayOf c l = selN (fun i => !c.finish i) 0 l := rfl

theorem selN_sublist {α} (f : Nat → Bool) : ∀ (l : List α) (n : Nat), (selN f n l).Sublist l := by
  intro l
  induction l with
  | nil => intro n; simp [selN, enumFrom]
  | cons x xs ih =>
    intro n
    rw [selN_cons]
    split
    · exact (ih (n + 1)).cons_cons x
    · exact (ih (n + 1)).cons x

theorem selN_split {α} (f : Nat → Bool) : ∀ (l : List α) (n : Nat) (x : α), x ∈ l →
    x ∈ selN f n l ∨ x ∈ selN (fun i => !f i) n l := by
  intro l
  induction l with
  | nil => intro n x hx; simp at hx
  | cons y ys ih =>
    intro n x hx
    rw [selN_cons, selN_cons]
    rcases List.mem_cons.mp hx with rfl | hx
    · cases f n <;> simp
    · rcases ih (n + 1) x hx with h | h
      · left; split <;> simp [h]
      · right; split <;> simp [h]

theorem selN_disjoint (f : Nat → Bool) : ∀ (l : List Job) (n : Nat), (l.map Job.tid).Nodup →
    ∀ j ∈ selN f n l, ∀ j' ∈ selN (fun i => !f i) n l, j.tid ≠ j'.tid := by
  intro l
  induction l with
  | nil => intro n _ j hj; simp [selN, enumFrom] at hj
  | cons y ys ih =>
    intro n hnd j hj j' hj'
    rw [List.map_cons, List.nodup_cons] at hnd
    rw [selN_cons] at hj hj'
    have sub1 := (selN_sublist f ys (n + 1)).subset
    have sub2 := (selN_sublist (fun i => !f i) ys (n + 1)).subset
    cases hf : f n with
    | true =>
      simp only [hf, if_true, Bool.not_true, Bool.false_eq_true, if_false, List.mem_cons] at hj hj'
      rcases hj with rfl | hj
      · exact fun he => hnd.1 (he ▸ List.mem_map.mpr ⟨j', sub2 hj', rfl⟩)
      · exact ih (n + 1) hnd.2 j hj j' hj'
    | false =>
      simp only [hf, Bool.false_eq_true, if_false, Bool.not_false, if_true, List.mem_cons] at hj hj'
      rcases hj' with rfl | hj'
      · exact fun he => hnd.1 (he ▸ List.mem_map.mpr ⟨j, sub1 hj, rfl⟩)
      · exact ih (n + 1) hnd.2 j hj j' hj'

structure Tr (cfg : Config) (s : IS) : Prop where
  aliveRun : ∀ t ∈ s.alive, t ∈ s.rs.running.map Job.tid
  runFut : ∀ j ∈ s.rs.running, j.tid ∈ s.rs.futs
  runNotCanc : ∀ j ∈ s.rs.running, j.tid ∉ s.cancelled
  runNotDone : ∀ j ∈ s.rs.running, j.tid ∉ s.done.map (·.1)
  runNd : (s.rs.running.map Job.tid).Nodup
  runNotZomb : ∀ j ∈ s.rs.running, j.tid ∉ s.zombies
  queuedNotRun : ∀ j ∈ s.rs.queued, j.tid ∉ s.rs.running.map Job.tid
  serial : cfg.backend = .serial → s.rs.running = []

theorem Tr_of_fields {s s' : IS} (h : Tr cfg s) (h1 : s'.rs.running = s.rs.running) (h2 : s'.alive = s.alive)
    (h3 : s'.rs.futs = s.rs.futs) (h4 : s'.cancelled = s.cancelled) (h5 : s'.done = s.done)
    (h6 : s'.zombies = s.zombies) (h7 : s'.rs.queued = s.rs.queued) : Tr cfg s' where
  aliveRun := by rw [h1, h2]; exact h.aliveRun
  runFut := by rw [h1, h3]; exact h.runFut
  runNotCanc := by rw [h1, h4]; exact h.runNotCanc
  runNotDone := by rw [h1, h5]; exact h.runNotDone
  runNd := by rw [h1]; exact h.runNd
  runNotZomb := by rw [h1, h6]; exact h.runNotZomb
  queuedNotRun := by rw [h1, h7]; exact h.queuedNotRun
  serial := by rw [h1]; exact h.serial

theorem always_Tr_untouched (ps : List Prim) (s : IS) (hq : ∀ q ∈ ps, q.touchesExec = false) :
    Tr cfg s → Always cfg p (Tr cfg) ps s :=
  always_of_step ps s (fun q hq' s h => by
    obtain ⟨h1, h2, h3, h4, h5, h6, h7, _⟩ := applyPrim_exec q s (hq q hq')
    exact Tr_of_fields h h1 h2 h3 h4 h5 h6 h7)

theorem Tr_consume (c : Choice) (s : IS) (h : Tr cfg s) : Tr cfg (applyPrim cfg p (Prim.consumeResults c) s) := by
  refine applyPrim_of_step (R := fun _ s' => Tr cfg s') _ s h ?_
  have hsub : ∀ j ∈ stayOf c s.rs.running, j ∈ s.rs.running :=
    fun j hj => (selN_sublist (fun i => !c.finish i) s.rs.running 0).subset hj
  have hdis : ∀ j ∈ finOf c s.rs.running, ∀ j' ∈ stayOf c s.rs.running, j.tid ≠ j'.tid :=
    selN_disjoint c.finish s.rs.running 0 h.runNd
  exact {
    aliveRun := by
      intro t ht
      simp only [stepPrim, List.mem_filter, decide_eq_true_eq] at ht ⊢
      obtain ⟨j, hj, rfl⟩ := List.mem_map.mp (h.aliveRun t ht.1)
      rcases selN_split c.finish s.rs.running 0 j hj with hf | hs
      · exact absurd (List.mem_map.mpr ⟨j, hf, rfl⟩) ht.2
      · exact List.mem_map.mpr ⟨j, hs, rfl⟩
    runFut := fun j hj => h.runFut j (hsub j hj)
    runNotCanc := fun j hj => h.runNotCanc j (hsub j hj)
    runNotDone := by
      intro j hj hd
      simp only [stepPrim, List.map_append, List.mem_append, List.map_map] at hd
      rcases hd with hd | hd
      · exact h.runNotDone j (hsub j hj) hd
      · obtain ⟨j', hj', he⟩ := List.mem_map.mp hd
        have hj'' := (List.mem_filter.mp (List.mem_filter.mp hj').1).1
        exact hdis j' hj'' j hj (by simpa using he)
    runNd := (List.Sublist.map _ (selN_sublist (fun i => !c.finish i) s.rs.running 0)).nodup h.runNd
    runNotZomb := by
      intro j hj hz
      simp only [stepPrim, List.mem_append] at hz
      rcases hz with hz | hz
      · exact h.runNotZomb j (hsub j hj) hz
      · obtain ⟨j', hj', he⟩ := List.mem_map.mp hz
        exact hdis j' (List.mem_filter.mp hj').1 j hj he
    queuedNotRun := by
      intro j hj hr
      obtain ⟨j', hj', he⟩ := List.mem_map.mp hr
      exact h.queuedNotRun j hj (List.mem_map.mpr ⟨j', hsub j' hj', he⟩)
    serial := by
      intro hb
      simp only [stepPrim, h.serial hb, stayOf, enumFrom]
      rfl }

theorem Tr_markDead (t : Tid) (s : IS) (h : Tr cfg s) : Tr cfg (applyPrim cfg p (Prim.markDead t) s) := by
  refine applyPrim_of_step (R := fun _ s' => Tr cfg s') _ s h ?_
  simp only [stepPrim]
  split
  · next hz =>
    exact { h with
      runNotDone := by
        intro j hj hd
        split at hd
        · exact h.runNotDone j hj hd
        · simp only [List.map_append, List.mem_append, List.map_cons, List.map_nil, List.mem_singleton] at hd
          rcases hd with hd | hd
          · exact h.runNotDone j hj hd
          · exact h.runNotZomb j hj (hd ▸ hz)
      runNotZomb := fun j hj hz' => h.runNotZomb j hj (List.mem_of_mem_erase hz') }
  · exact h

/-- `future_to_task.pop(future)` for a future that is cancelled or holds an outcome -/
theorem Tr_popFuture (t : Tid) (o : Option Outcome) (s : IS) (h : Tr cfg s)
    (hg : t ∈ s.cancelled ∨ t ∈ s.done.map (·.1)) : Tr cfg (applyPrim cfg p (Prim.popFuture t o) s) := by
  refine applyPrim_of_step (R := fun _ s' => Tr cfg s') _ s h ?_
  simp only [stepPrim]
  have hnr : ∀ j ∈ s.rs.running, j.tid ≠ t := by
    intro j hj he
    rcases hg with hg | hg
    · exact h.runNotCanc j hj (he ▸ hg)
    · exact h.runNotDone j hj (he ▸ hg)
  split
  · exact { h with
      runFut := by
        intro j hj
        simp only [List.mem_filter, decide_eq_true_eq]
        exact ⟨h.runFut j hj, hnr j hj⟩
      runNotDone := by
        intro j hj hd
        obtain ⟨x, hx, he⟩ := List.mem_map.mp hd
        exact h.runNotDone j hj (List.mem_map.mpr ⟨x, (List.mem_filter.mp hx).1, he⟩) }
  · exact Tr_of_fields h rfl rfl rfl rfl rfl rfl rfl

theorem Tr_cancelOne (t : Tid) (s : IS) (h : Tr cfg s) (hg : t ∉ s.rs.running.map Job.tid) :
    Tr cfg (applyPrim cfg p (Prim.cancelOne t) s) := by
  refine applyPrim_of_step (R := fun _ s' => Tr cfg s') _ s h ?_
  simp only [stepPrim]
  exact { h with
    runNotCanc := by
      intro j hj hc
      simp only [List.mem_append, List.mem_singleton] at hc
      rcases hc with hc | hc
      · exact h.runNotCanc j hj hc
      · exact hg (List.mem_map.mpr ⟨j, hj, hc⟩)
    queuedNotRun := fun j hj => h.queuedNotRun j (List.mem_of_mem_eraseP hj) }

theorem Tr_clearDeque (s : IS) (h : Tr cfg s) (hb : cfg.backend = .serial) :
    Tr cfg (applyPrim cfg p Prim.clearDeque s) := by
  refine applyPrim_of_step (R := fun _ s' => Tr cfg s') _ s h ?_
  simp only [stepPrim]
  have hr := h.serial hb
  exact { h with
    runFut := by intro j hj; rw [hr] at hj; simp at hj
    queuedNotRun := by intro j hj; simp at hj }

theorem Tr_popDeque (s : IS) (h : Tr cfg s) : Tr cfg (applyPrim cfg p Prim.popDeque s) := by
  refine applyPrim_of_step (R := fun _ s' => Tr cfg s') _ s h ?_
  simp only [stepPrim]
  split
  · exact Tr_of_fields h rfl rfl rfl rfl rfl rfl rfl
  · next j rest hq =>
    exact { h with
      queuedNotRun := fun j' hj' => h.queuedNotRun j' (by rw [hq]; exact List.mem_cons_of_mem _ hj') }

theorem Tr_stopOne (t : Tid) (s : IS) (h : Tr cfg s) : Tr cfg (applyPrim cfg p (Prim.stopOne t) s) := by
  refine applyPrim_of_step (R := fun _ s' => Tr cfg s') _ s h ?_
  simp only [stepPrim]
  have hsub : ∀ j ∈ s.rs.running.eraseP (hasTid t), j ∈ s.rs.running := fun j hj => List.mem_of_mem_eraseP hj
  have hne := eraseP_tid_ne t s.rs.running h.runNd
  exact {
    aliveRun := by
      intro t' ht'
      by_cases hany : s.rs.running.any (hasTid t) = true
      · rw [if_pos hany] at ht'
        simp only [List.mem_filter, decide_eq_true_eq] at ht'
        obtain ⟨j, hj, rfl⟩ := List.mem_map.mp (h.aliveRun t' ht'.1)
        exact List.mem_map.mpr ⟨j, (List.mem_eraseP_of_neg (by simp [hasTid, ht'.2])).mpr hj, rfl⟩
      · rw [if_neg hany] at ht'
        obtain ⟨j, hj, rfl⟩ := List.mem_map.mp (h.aliveRun t' ht')
        have hjt : j.tid ≠ t := fun he => hany (List.any_eq_true.mpr ⟨j, hj, by simp [hasTid, he]⟩)
        exact List.mem_map.mpr ⟨j, (List.mem_eraseP_of_neg (by simp [hasTid, hjt])).mpr hj, rfl⟩
    runFut := fun j hj => h.runFut j (hsub j hj)
    runNotCanc := by
      intro j hj hc
      simp only [List.mem_append, List.mem_singleton] at hc
      rcases hc with hc | hc
      · exact h.runNotCanc j (hsub j hj) hc
      · exact hne j hj hc
    runNotDone := fun j hj => h.runNotDone j (hsub j hj)
    runNd := (List.Sublist.map _ (List.eraseP_sublist)).nodup h.runNd
    runNotZomb := fun j hj hz => h.runNotZomb j (hsub j hj) (List.mem_filter.mp hz).1
    queuedNotRun := by
      intro j hj hr
      obtain ⟨j', hj', he⟩ := List.mem_map.mp hr
      exact h.queuedNotRun j hj (List.mem_map.mpr ⟨j', hsub j' hj', he⟩)
    serial := by intro hb; rw [h.serial hb]; rfl }

end Lt
