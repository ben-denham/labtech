import LabtechModel.Proofs.PathLemmas
/-!
The kernel's path walk for C18, one component at a time (`kstep`, `kwalk_cons`), and what follows about
where a walk ends:

* `kwalk_linkfree`: on a symlink-free normal path it ends on that path;
* `kwalk_snoc`: the walk of `xs/c` is the walk of `xs` followed by one step: whatever symlinks `xs` goes
  through, the node reached is the child `c` of the directory the kernel reaches through `xs`. No
  hypothesis on the tree;
* `kwalk_after_mkdir`: creating a missing node does not change where a successful walk ends.
-/
namespace Lt.Path

theorem linkFree_prefix (fs : FS) (p q : P) (h : LinkFree fs p) (hq : q <+: p) : LinkFree fs q :=
  fun s hs => h s (List.IsPrefix.trans hs hq)

/-- what the kernel does with one component `n` in the directory `cur`: fail, go on from a directory, or
    find a symlink -/
inductive KStep where
  | err (e : Errno)
  | go (cur : P)
  | link (tgt : List Char)

def kstep (fs : FS) (cur : P) (n : Comp) : KStep :=
  if n = [] then .go cur
  else match lstat fs cur with
    | none => .err .enoent
    | some .file => .err .enotdir
    | some (.link _) => .err .enotdir
    | some .dir =>
      if n = dot then .go cur
      else if n = dotdot then .go cur.dropLast
      else if tooLong n then .err .enametoolong
      else match lstat fs (cur ++ [n]) with
        | some (.link tgt) => .link tgt
        | _ => .go (cur ++ [n])

theorem kwalk_cons (fs : FS) (ff : Bool) (b : Nat) (cur : P) (n : Comp) (rest : P) :
    kwalk fs ff (b + 1) cur (n :: rest) =
      match kstep fs cur n with
      | .err e => .error e
      | .go c => kwalk fs ff (b + 1) c rest
      | .link tgt =>
        if isLast rest && !ff then .ok (cur ++ [n])
        else kwalk fs ff b (if isAbs tgt then [] else cur) (tgtComps tgt ++ rest) := by
  rw [kwalk, kwalkAux, kstep]
  by_cases h0 : n = []
  · rw [if_pos h0, if_pos h0]
  · rw [if_neg h0, if_neg h0]
    cases lstat fs cur with
    | none => rfl
    | some nd =>
      cases nd with
      | file => rfl
      | link t => rfl
      | dir =>
        show (if n = dot then _ else _) = _
        by_cases h1 : n = dot
        · rw [if_pos h1, if_pos h1]
        · rw [if_neg h1, if_neg h1]
          by_cases h2 : n = dotdot
          · rw [if_pos h2, if_pos h2]
          · rw [if_neg h2, if_neg h2]
            by_cases h3 : tooLong n = true
            · rw [if_pos h3, if_pos h3]
            · rw [if_neg h3, if_neg h3]
              cases lstat fs (cur ++ [n]) with
              | none => rfl
              | some nd => cases nd <;> rfl

/-- a step on a normal component: it fails, or it was made in a directory and ends on the child, which is
    a symlink (`link`) or not (`go`) -/
theorem kstep_normal (fs : FS) (cur : P) (n : Comp) (hn : n ≠ [] ∧ n ≠ dot ∧ n ≠ dotdot) :
    (∃ e, kstep fs cur n = .err e) ∨
    lstat fs cur = some .dir ∧
      ((kstep fs cur n = .go (cur ++ [n]) ∧ optIsLink (lstat fs (cur ++ [n])) = false) ∨
       ∃ tgt, kstep fs cur n = .link tgt ∧ lstat fs (cur ++ [n]) = some (.link tgt)) := by
  rw [kstep, if_neg hn.1]
  cases lstat fs cur with
  | none => exact Or.inl ⟨_, rfl⟩
  | some nd =>
    cases nd with
    | file => exact Or.inl ⟨_, rfl⟩
    | link t => exact Or.inl ⟨_, rfl⟩
    | dir =>
      show (∃ e, (if n = dot then _ else _) = _) ∨ _
      rw [if_neg hn.2.1, if_neg hn.2.2]
      by_cases h3 : tooLong n = true
      · rw [if_pos h3]; exact Or.inl ⟨_, rfl⟩
      · rw [if_neg h3]
        refine Or.inr ⟨rfl, ?_⟩
        cases lstat fs (cur ++ [n]) with
        | none => exact Or.inl ⟨rfl, rfl⟩
        | some nd =>
          cases nd with
          | dir => exact Or.inl ⟨rfl, rfl⟩
          | file => exact Or.inl ⟨rfl, rfl⟩
          | link t => exact Or.inr ⟨t, rfl, rfl⟩

theorem kwalk_linkfree (fs : FS) (ff : Bool) (b : Nat) (loc : P) :
    ∀ (rest cur : P), NormalP rest → LinkFree fs (cur ++ rest) →
      kwalk fs ff (b + 1) cur rest = .ok loc → loc = cur ++ rest := by
  intro rest
  induction rest with
  | nil => intro cur _ _ h; cases h; exact (List.append_nil _).symm
  | cons n rest ih =>
    intro cur hn hl h
    rw [kwalk_cons] at h
    rcases kstep_normal fs cur n hn.head with ⟨e, hk⟩ | ⟨_, ⟨hk, _⟩ | ⟨tgt, _, hx⟩⟩
    · rw [hk] at h; cases h
    · rw [hk] at h
      rw [List.append_cons]
      exact ih _ hn.tail hl.cons.2 h
    · have := hl.cons.1
      rw [hx] at this; cases this

/-- a walk of `xs/c` that succeeds, following the last component (`stat`, `open`) or not (`lstat`, `mkdir`,
    `rmtree`, `open(…,'x')`): the walk of `xs` reaches a directory `R`, the no-follow walk ends at its
    child `R/c`, and unless `R/c` is a symlink so does the following one -/
theorem kwalk_snoc {fs : FS} {ff : Bool} {c : Comp} (hc : c ≠ [] ∧ c ≠ dot ∧ c ≠ dotdot) :
    ∀ {b : Nat} {xs cur loc : P}, kwalk fs ff b cur (xs ++ [c]) = .ok loc →
      ∃ R, kwalk fs true b cur xs = .ok R ∧ lstat fs R = some .dir ∧
        kwalk fs false b cur (xs ++ [c]) = .ok (R ++ [c]) ∧
        (optIsLink (lstat fs (R ++ [c])) = false → loc = R ++ [c]) := by
  intro b
  induction b with
  | zero => intro xs cur loc h; cases h
  | succ b ihb =>
    intro xs
    induction xs with
    | nil =>
      intro cur loc h
      simp only [List.nil_append, kwalk_cons] at h ⊢
      refine ⟨cur, rfl, ?_⟩
      rcases kstep_normal fs cur c hc with ⟨e, hk⟩ | ⟨hd, ⟨hk, hnl⟩ | ⟨tgt, hk, hx⟩⟩
      · rw [hk] at h; cases h
      · rw [hk] at h ⊢; cases h; exact ⟨hd, rfl, fun _ => rfl⟩
      · rw [hk]; exact ⟨hd, rfl, fun hnl => by rw [hx] at hnl; cases hnl⟩
    | cons x xs ih =>
      intro cur loc h
      simp only [List.cons_append, kwalk_cons] at h ⊢
      cases hk : kstep fs cur x with
      | err e => rw [hk] at h; cases h
      | go cur' => simp only [hk] at h ⊢; exact ih h
      | link tgt =>
        -- `xs/c` does not end here, so the link is followed whatever `ff` is
        have hlast : isLast (xs ++ [c]) = false := by simp [isLast, hc.1]
        simp only [hk, hlast, Bool.false_and, Bool.not_true, Bool.and_false,
          Bool.false_eq_true, if_false, ← List.append_assoc] at h ⊢
        exact ihb h

theorem lstat_cons_dir (fs : FS) (loc q : P) (h : optIsLink (lstat fs q) = false) :
    optIsLink (lstat ((loc, Node.dir) :: fs) q) = false := by
  cases q with
  | nil => rfl
  | cons a as =>
    simp only [lstat, List.lookup] at h ⊢
    split
    · rfl
    · rename_i hl
      rw [if_neg hl] at h
      split
      · rfl
      · exact h

theorem lstat_cons_some (fs : FS) (L q : P) (nd : Node) (hL : lstat fs L = none)
    (h : lstat fs q = some nd) : lstat ((L, Node.dir) :: fs) q = some nd := by
  cases q with
  | nil => exact h
  | cons a as =>
    simp only [lstat, List.lookup] at h ⊢
    split
    · rename_i hl; rw [if_pos hl] at h; cases h
    · rename_i hl
      rw [if_neg hl] at h
      split
      · rename_i heq
        rw [← eq_of_beq heq] at hL
        simp only [lstat, hl, Bool.false_eq_true, if_false] at hL
        rw [hL] at h; cases h
      · exact h

theorem kstep_after_mkdir (fs : FS) (L : P) (hL : lstat fs L = none) (cur : P) (n : Comp) :
    (∃ e, kstep fs cur n = .err e) ∨ kstep ((L, Node.dir) :: fs) cur n = kstep fs cur n := by
  unfold kstep
  by_cases h0 : n = []
  · right; rw [if_pos h0, if_pos h0]
  · rw [if_neg h0, if_neg h0]
    cases hcur : lstat fs cur with
    | none => exact Or.inl ⟨_, rfl⟩
    | some nd =>
      rw [lstat_cons_some fs L cur nd hL hcur]
      cases nd with
      | file => exact Or.inl ⟨_, rfl⟩
      | link t => exact Or.inl ⟨_, rfl⟩
      | dir =>
        right
        cases hx : lstat fs (cur ++ [n]) with
        | some nd' => rw [lstat_cons_some fs L _ nd' hL hx]
        | none =>
          -- the child may be the node just made: a directory, still no symlink, so the step is the same
          have := lstat_cons_dir fs L (cur ++ [n]) (by rw [hx]; rfl)
          cases hx' : lstat ((L, Node.dir) :: fs) (cur ++ [n]) with
          | none => rfl
          | some nd' =>
            cases nd' with
            | dir => rfl
            | file => rfl
            | link t => rw [hx'] at this; cases this

theorem kwalk_after_mkdir (fs : FS) (L : P) (hL : lstat fs L = none) (ff : Bool) :
    ∀ (b : Nat) (xs cur R : P), kwalk fs ff b cur xs = .ok R →
      kwalk ((L, Node.dir) :: fs) ff b cur xs = .ok R := by
  intro b
  induction b with
  | zero => intro xs cur R h; cases h
  | succ b ihb =>
    intro xs
    induction xs with
    | nil => intro cur R h; exact h
    | cons x xs ih =>
      intro cur R h
      rw [kwalk_cons] at h ⊢
      rcases kstep_after_mkdir fs L hL cur x with ⟨e, he⟩ | he
      · rw [he] at h; cases h
      · rw [he]
        cases hk : kstep fs cur x with
        | err e => rw [hk] at h; cases h
        | go cur' => simp only [hk] at h ⊢; exact ih cur' R h
        | link tgt =>
          simp only [hk] at h ⊢
          split
          · rename_i hfin; rwa [if_pos hfin] at h
          · rename_i hfin; rw [if_neg hfin] at h; exact ihb _ _ R h

end Lt.Path
