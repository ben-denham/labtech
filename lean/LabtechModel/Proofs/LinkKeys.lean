import LabtechModel.Props.C07
import LabtechModel.Proofs.StoreLaws
/-!
# Link params model ↔ history model: `KeyInj` from C07

The history model (`Model/Store.lean`) keys its disk by a *structured* key
`{cls : CacheKind, ty : Nat, h : Nat}`: cache class, a number standing for the task type, a number
standing for the sha1 digest of the serialised task; `KeyInj U` (distinct tasks, distinct keys) is a
hypothesis of C06 / C08.  The params model (`Model/Params.lean`) has the real thing: the parameter
tree `Params.Task` of a task and `cacheKey = prefix ++ qualname ++ "__" ++ sha1 (dumps (serTask t))`.

* `Represents U sha1 task`: the universe's type numbers and hash numbers *stand for* the class
  strings and the sha1 digests of the parameter trees `task t` (`t < U.n`): equal numbers, equal
  strings.  Tids outside `0 … n-1` are not tasks of the universe; they carry private dummy hash
  numbers.  `paramsUniverse` builds such a universe from any family of parameter trees with a proved
  injective numbering of strings (`strCode`), `paramsUniverse_represents`.
* `storeKey_eq_realKey_eq`: equal structured keys ⇒ equal real key strings (for every non-null cache
  format): the structured key is a sound abstraction of `BaseCache.cache_key`.
* `keyInj_of_params`: for well-formed (`wfTask`, i.e. `wfValue` at every depth: module-level classes,
  no dict spelling out a task/enum — F07's input class stays excluded), pairwise distinct parameter
  trees, under the two named assumptions `ShaInjOn` (sha1 collision-free on the pre-images that
  occur) and `DumpsInjOn` (`json.dumps` separates the serialised documents that occur), `KeyInj U`.
  `keyInj_of_params_via_cacheKey` is the same conclusion obtained literally through the real key
  string and `C07.cacheKey_injective_partial` (it needs in addition that a digest has 40 characters).
-/
namespace Lt.Link
open Lt.Params (Task cacheKeyPre serTask dumps wfTask cacheKey CacheFmt ClassRef)

def charsCode : List Char → Nat
  | [] => 0
  | c :: cs => (c.toNat + 1) + 1114113 * charsCode cs

/-- base-1114113 numeral of the code points (+1): an injective map `String → Nat` -/
def strCode (s : String) : Nat := charsCode s.toList

theorem charsCode_inj : ∀ (a b : List Char), charsCode a = charsCode b → a = b
  | [], [], _ => rfl
  | [], c :: cs, h => by simp only [charsCode] at h; omega
  | c :: cs, [], h => by simp only [charsCode] at h; omega
  | c :: cs, c' :: cs', h => by
    simp only [charsCode] at h
    have h1 := Lt.Params.char_valid c
    have h2 := Lt.Params.char_valid c'
    have hc : c.toNat = c'.toNat := by omega
    have hr : charsCode cs = charsCode cs' := by omega
    have hcc : c = c' := by rw [← Char.ofNat_toNat c, ← Char.ofNat_toNat c', hc]
    rw [hcc, charsCode_inj cs cs' hr]

theorem strCode_inj (a b : String) (h : strCode a = strCode b) : a = b :=
  String.toList_inj.mp (charsCode_inj _ _ h)

/-- SHA-1 does not collide on the pre-images `dumps (serTask (task t))`, `t < n`, that occur (C07's `hsha`, over a
    family of tasks) -/
def ShaInjOn (sha1 : String → String) (n : Nat) (task : Nat → Task) : Prop :=
  ∀ t t', t < n → t' < n → sha1 (cacheKeyPre (task t)) = sha1 (cacheKeyPre (task t')) →
    cacheKeyPre (task t) = cacheKeyPre (task t')

/-- `json.dumps` separates the serialised documents of the tasks that occur (C07's `hdumps`, over a family of tasks;
    a theorem for families whose float parameters carry float tokens: `dumpsInjOn_of_wfFloats` in
    `Proofs/LinkDumps.lean`) -/
def DumpsInjOn (n : Nat) (task : Nat → Task) : Prop :=
  ∀ t t', t < n → t' < n → dumps (serTask (task t)) = dumps (serTask (task t')) → serTask (task t) = serTask (task t')

/-- every task of the family is well-formed (`wfValue` at every depth) -/
def WfTasks (n : Nat) (task : Nat → Task) : Prop := ∀ t, t < n → wfTask (task t) = true

/-- tids name distinct tasks (a tid is an equality class of task objects) -/
def Distinct (n : Nat) (task : Nat → Task) : Prop := ∀ t t', t < n → t' < n → task t = task t' → t = t'

/-- the universe's type and hash numbers stand for class strings and sha1 digests of `task t` -/
structure Represents (U : Store.Universe) (sha1 : String → String) (task : Nat → Task) : Prop where
  ty_cls : ∀ t t', t < U.n → t' < U.n → U.ty t = U.ty t' → (task t).cls.ser = (task t').cls.ser
  hash_sha : ∀ t t', t < U.n → t' < U.n → U.hash t = U.hash t' →
    sha1 (cacheKeyPre (task t)) = sha1 (cacheKeyPre (task t'))
  outside : ∀ t t', ¬ t < U.n → U.hash t = U.hash t' → t = t'

theorem wfTask_dotFree (t : Task) (h : wfTask t = true) : Lt.Params.dotFree t.cls.qualname = true := by
  cases t with
  | mk c fs =>
    simp only [wfTask, Bool.and_eq_true] at h
    exact h.1.1

theorem keyOf_eq {U : Store.Universe} {t t' : Nat} (h : Store.keyOf U t = Store.keyOf U t') :
    U.ty t = U.ty t' ∧ U.hash t = U.hash t' := by
  simp only [Store.keyOf, Store.Key.mk.injEq] at h
  exact h.2

/-- equal structured keys of two tasks of the universe ⇒ equal real `cache_key` strings -/
theorem storeKey_eq_realKey_eq (U : Store.Universe) (sha1 : String → String) (task : Nat → Task)
    (hrep : Represents U sha1 task) (hwf : WfTasks U.n task) (fmt : CacheFmt)
    (t t' : Nat) (ht : t < U.n) (ht' : t' < U.n) (h : Store.keyOf U t = Store.keyOf U t') :
    cacheKey sha1 fmt (task t) = cacheKey sha1 fmt (task t') := by
  have hcls : (task t).cls = (task t').cls :=
    Lt.Params.C07.classRef_injective _ _ (wfTask_dotFree _ (hwf t ht)) (wfTask_dotFree _ (hwf t' ht'))
      (hrep.ty_cls t t' ht ht' (keyOf_eq h).1)
  have hs := hrep.hash_sha t t' ht ht' (keyOf_eq h).2
  simp [cacheKey, hcls, hs]

/-- tids outside the universe have private hash numbers: `KeyInj` has to be shown for its tasks only -/
theorem keyInj_of_inside {U : Store.Universe} {sha1 : String → String} {task : Nat → Task}
    (hrep : Represents U sha1 task)
    (hin : ∀ t t', t < U.n → t' < U.n → Store.keyOf U t = Store.keyOf U t' → t = t') : Store.KeyInj U := by
  intro t t' h
  have hh := (keyOf_eq h).2
  by_cases ht : t < U.n
  · by_cases ht' : t' < U.n
    · exact hin t t' ht ht' h
    · exact (hrep.outside t' t ht' hh.symm).symm
  · exact hrep.outside t t' ht hh

/-- **C07 ⇒ `KeyInj`** -/
theorem keyInj_of_params (U : Store.Universe) (sha1 : String → String) (task : Nat → Task)
    (hrep : Represents U sha1 task) (hwf : WfTasks U.n task) (hdist : Distinct U.n task)
    (hsha : ShaInjOn sha1 U.n task) (hdumps : DumpsInjOn U.n task) : Store.KeyInj U :=
  keyInj_of_inside hrep fun t t' ht ht' h =>
    hdist t t' ht ht' (Lt.Params.C07.serTask_injective_partial _ _ (hwf t ht) (hwf t' ht')
      (hdumps t t' ht ht' (hsha t t' ht ht' (hrep.hash_sha t t' ht ht' (keyOf_eq h).2))))

/-- the same, literally through the real key string and `cacheKey_injective_partial` -/
theorem keyInj_of_params_via_cacheKey (U : Store.Universe) (sha1 : String → String)
    (hlen : ∀ x, (sha1 x).toList.length = 40) (task : Nat → Task)
    (hrep : Represents U sha1 task) (hwf : WfTasks U.n task) (hdist : Distinct U.n task)
    (hsha : ShaInjOn sha1 U.n task) (hdumps : DumpsInjOn U.n task) : Store.KeyInj U :=
  keyInj_of_inside hrep fun t t' ht ht' h =>
    hdist t t' ht ht'
      (Lt.Params.C07.cacheKey_injective_partial sha1 hlen _ rfl _ _ (hwf t ht) (hwf t' ht') (hsha t t' ht ht')
        (hdumps t t' ht ht')
        (storeKey_eq_realKey_eq U sha1 task hrep hwf ⟨"", "", false⟩ t t' ht ht' h))

/-- `base` with its type and hash numbers replaced by the numbers of the class strings / sha1
    digests of the parameter trees `task t`; tids that are not tasks get odd private numbers -/
def paramsUniverse (base : Store.Universe) (sha1 : String → String) (task : Nat → Task) : Store.Universe :=
  { base with
    ty := fun t => strCode (task t).cls.ser
    hash := fun t => if t < base.n then 2 * strCode (sha1 (cacheKeyPre (task t))) else 2 * t + 1 }

theorem paramsUniverse_hash (base : Store.Universe) (sha1 : String → String) (task : Nat → Task) (t : Nat) :
    (paramsUniverse base sha1 task).hash t =
      if t < base.n then 2 * strCode (sha1 (cacheKeyPre (task t))) else 2 * t + 1 := rfl

theorem paramsUniverse_represents (base : Store.Universe) (sha1 : String → String) (task : Nat → Task) :
    Represents (paramsUniverse base sha1 task) sha1 task where
  ty_cls := fun _ _ _ _ h => strCode_inj _ _ h
  hash_sha := by
    intro t t' (ht : t < base.n) (ht' : t' < base.n) h
    rw [paramsUniverse_hash, paramsUniverse_hash, if_pos ht, if_pos ht'] at h
    exact strCode_inj _ _ (Nat.eq_of_mul_eq_mul_left Nat.zero_lt_two h)
  outside := by
    intro t t' (ht : ¬ t < base.n) h
    rw [paramsUniverse_hash, paramsUniverse_hash, if_neg ht] at h
    split at h <;> omega

end Lt.Link
