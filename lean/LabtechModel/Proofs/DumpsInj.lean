import LabtechModel.Proofs.DumpsInjNum
import LabtechModel.Proofs.DumpsInjStr
/-!
# `json.dumps` is injective (`dumps_injective`)

`Json.wfTokens`: every `.float tok` leaf of a document (at any depth, in arrays and in object values)
carries a token of the float grammar `wfFloatTok` (`Proofs/DumpsInjNum.lean`).  Nothing else is
restricted: any strings (every Lean `String` is a sequence of Unicode scalar values), any nesting
depth, any lengths, objects with repeated keys in any order (an `.obj` carries an association list and
injectivity holds for the lists as they are).

The proof is the standard unique-decoding argument for a printer, by mutual recursion on the document:

* `dumps_split`: if `dumps a ++ r = dumps b ++ r'` where `r`, `r'` are each empty or start with one
  of `,` `]` `}`, then `a = b` and `r = r'`;
* `dumpsList_split`: the same for the inside of an array, followed by `]`;
* `dumpsItems_split`: the same for the inside of an object, followed by `}`.

Without `wfTokens` the statement is false (`C07.dumps_needs_wfTokens`): the model's `.float`
carries the token text, and a text such as `1, 2` would print like two array elements.
-/
namespace Lt.Params

mutual
/-- every `.float` leaf carries a token of the float grammar -/
def Json.wfTokens : Json → Bool
  | .null => true
  | .bool _ => true
  | .int _ => true
  | .float tok => wfFloatTok tok
  | .str _ => true
  | .arr items => wfTokensList items
  | .obj items => wfTokensItems items
def wfTokensList : List Json → Bool
  | [] => true
  | j :: js => j.wfTokens && wfTokensList js
def wfTokensItems : List (String × Json) → Bool
  | [] => true
  | (_, j) :: rest => j.wfTokens && wfTokensItems rest
end

theorem dumps_null : (dumps .null).toList = ['n', 'u', 'l', 'l'] := by simp [dumps]
theorem dumps_true : (dumps (.bool true)).toList = ['t', 'r', 'u', 'e'] := by simp [dumps]
theorem dumps_false : (dumps (.bool false)).toList = ['f', 'a', 'l', 's', 'e'] := by simp [dumps]
theorem dumps_int (i : Int) : dumps (.int i) = toString i := rfl
theorem dumps_float (tok : String) : dumps (.float tok) = tok := rfl
theorem dumps_arr (items : List Json) :
    (dumps (.arr items)).toList = '[' :: ((dumpsList items).toList ++ [']']) := by
  simp [dumps]
theorem dumps_obj (items : List (String × Json)) :
    (dumps (.obj items)).toList = '{' :: ((dumpsItems items).toList ++ ['}']) := by
  simp [dumps]

/-- what follows the first element of an array body that is closed by `]` and followed by `r` -/
def listRest (js : List Json) (r : List Char) : List Char :=
  match js with
  | [] => ']' :: r
  | _ :: _ => ',' :: ' ' :: ((dumpsList js).toList ++ ']' :: r)

/-- what follows the first item of an object body that is closed by `}` and followed by `r` -/
def itemsRest (js : List (String × Json)) (r : List Char) : List Char :=
  match js with
  | [] => '}' :: r
  | _ :: _ => ',' :: ' ' :: ((dumpsItems js).toList ++ '}' :: r)

theorem dumpsList_nil_close (r : List Char) : (dumpsList []).toList ++ ']' :: r = ']' :: r := by
  simp [dumpsList]

theorem dumpsList_cons_close (j : Json) (js : List Json) (r : List Char) :
    (dumpsList (j :: js)).toList ++ ']' :: r = (dumps j).toList ++ listRest js r := by
  cases js with
  | nil => simp [dumpsList, listRest]
  | cons j' js => simp [dumpsList, listRest]

theorem dumpsItems_nil_close (r : List Char) : (dumpsItems []).toList ++ '}' :: r = '}' :: r := by
  simp [dumpsItems]

theorem dumpsItems_cons_close (k : String) (j : Json) (js : List (String × Json)) (r : List Char) :
    (dumpsItems ((k, j) :: js)).toList ++ '}' :: r =
      (dumpsStr k).toList ++ (':' :: ' ' :: ((dumps j).toList ++ itemsRest js r)) := by
  cases js with
  | nil => simp [dumpsItems, itemsRest]
  | cons j' js => simp [dumpsItems, itemsRest]

theorem okFollow_listRest (js : List Json) (r : List Char) : okFollow (listRest js r) = true := by
  cases js <;> simp [listRest, okFollow, isDelim]

theorem okFollow_itemsRest (js : List (String × Json)) (r : List Char) : okFollow (itemsRest js r) = true := by
  cases js <;> simp [itemsRest, okFollow, isDelim]

/-- what kind of document: `1` a string, `2` an array, `3` an object, `0` an atom (`null`, `true`, `false`, integer
and float tokens: the documents whose text is delimiter-free, so that `delimFree_split` finds where they end) -/
def headClass : Json → Nat
  | .str _ => 1
  | .arr _ => 2
  | .obj _ => 3
  | _ => 0

/-- a character that is neither a delimiter nor the first character of a string, array or object -/
def atomChar (c : Char) : Bool := !isDelim c && c != '"' && c != '[' && c != '{'

/-- a class of characters without the six structural characters consists of atom characters -/
theorem atomChar_of (p : Char → Bool) (hp : [',', ']', '}', '"', '[', '{'].all (fun c => !p c) = true)
    (c : Char) (h : p c = true) : atomChar c = true := by
  cases hd : atomChar c with
  | true => rfl
  | false =>
    simp only [List.all_cons, List.all_nil, Bool.and_true, Bool.and_eq_true, Bool.not_eq_true'] at hp
    simp only [atomChar, isDelim, Bool.and_eq_false_iff, Bool.not_eq_false', Bool.or_eq_true, beq_iff_eq,
      bne_eq_false_iff_eq] at hd
    rcases hd with ((((e | e) | e) | e) | e) | e <;> subst e <;> simp_all

theorem atomChar_not_delim (c : Char) (h : atomChar c = true) : isDelim c = false := by
  simp only [atomChar, Bool.and_eq_true, Bool.not_eq_true'] at h
  exact h.1.1.1

theorem atom_chars (a : Json) (ha : headClass a = 0) (wa : a.wfTokens = true) :
    (dumps a).toList ≠ [] ∧ ∀ c ∈ (dumps a).toList, atomChar c = true := by
  cases a with
  | null => rw [dumps_null]; exact ⟨by simp, by decide⟩
  | bool b => cases b <;> simp only [dumps_true, dumps_false] <;> exact ⟨by simp, by decide⟩
  | int i =>
    rw [dumps_int]
    exact ⟨intToken_ne_nil i, fun c hc => atomChar_of intChar (by decide) c (intToken_chars i c hc)⟩
  | float tok =>
    rw [dumps_float]
    exact ⟨wfFloatTok_ne_nil tok wa, fun c hc => atomChar_of floatChar (by decide) c (wfFloatTok_chars tok wa c hc)⟩
  | str s => simp [headClass] at ha
  | arr l => simp [headClass] at ha
  | obj l => simp [headClass] at ha

/-- reads an atom back from its text -/
def atomOfText (l : List Char) : Json :=
  if l.all intChar then .int (intOfToken l)
  else if l = ['n', 'u', 'l', 'l'] then .null
  else if l = ['t', 'r', 'u', 'e'] then .bool true
  else if l = ['f', 'a', 'l', 's', 'e'] then .bool false
  else .float (String.ofList l)

theorem atomOfText_dumps (a : Json) (ha : headClass a = 0) (wa : a.wfTokens = true) :
    atomOfText (dumps a).toList = a := by
  cases a with
  | null => rw [dumps_null]; rfl
  | bool b => cases b <;> simp only [dumps_true, dumps_false] <;> rfl
  | int i => rw [dumps_int, atomOfText, if_pos (List.all_eq_true.mpr (intToken_chars i)), intOfToken_toString]
  | float tok =>
    rw [dumps_float]
    obtain ⟨m, hm, hmark⟩ := wfFloatTok_mark tok wa
    have h1 : ¬ tok.toList.all intChar = true := fun hall => by
      have := List.all_eq_true.mp hall m hm
      rw [floatMark_not_int m hmark] at this
      cases this
    have hne : ∀ (c : Char) (l : List Char), floatChar c = false → c ∈ l → tok.toList ≠ l := fun c l hf hc e => by
      have := wfFloatTok_chars tok wa c (e ▸ hc)
      rw [hf] at this
      cases this
    rw [atomOfText, if_neg h1, if_neg (hne 'u' _ rfl (by simp)), if_neg (hne 'r' _ rfl (by simp)),
      if_neg (hne 'l' _ rfl (by simp)), String.ofList_toList]
  | str s => cases ha
  | arr l => cases ha
  | obj l => cases ha

/-- the first character of the text tells atoms (0), strings, arrays and objects apart (`dumps_head`,
`headClass_eq`) -/
def charClass (c : Char) : Nat :=
  if c = '"' then 1 else if c = '[' then 2 else if c = '{' then 3 else 0

theorem dumps_head (a : Json) (wa : a.wfTokens = true) :
    ∃ c rest, (dumps a).toList = c :: rest ∧ charClass c = headClass a ∧ isDelim c = false := by
  by_cases ha : headClass a = 0
  · obtain ⟨hne, hall⟩ := atom_chars a ha wa
    cases hl : (dumps a).toList with
    | nil => exact absurd hl hne
    | cons c rest =>
      have hc := hall c (by rw [hl]; simp)
      refine ⟨c, rest, rfl, ?_, atomChar_not_delim c hc⟩
      simp only [atomChar, Bool.and_eq_true, bne_iff_ne, ne_eq] at hc
      simp [charClass, hc.1.1.2, hc.1.2, hc.2, ha]
  · cases a with
    | str s => exact ⟨'"', _, dumpsStr_toList s, by simp [charClass, headClass], by decide⟩
    | arr l => exact ⟨'[', _, dumps_arr l, by simp [charClass, headClass], by decide⟩
    | obj l => exact ⟨'{', _, dumps_obj l, by simp [charClass, headClass], by decide⟩
    | _ => simp [headClass] at ha

theorem headClass_eq (a b : Json) (wa : a.wfTokens = true) (wb : b.wfTokens = true) (r r' : List Char)
    (h : (dumps a).toList ++ r = (dumps b).toList ++ r') : headClass a = headClass b := by
  obtain ⟨c, rest, e, hc, _⟩ := dumps_head a wa
  obtain ⟨c', rest', e', hc', _⟩ := dumps_head b wb
  rw [e, e'] at h
  simp only [List.cons_append, List.cons.injEq] at h
  rw [← hc, ← hc', h.1]

/-- the documents that are not arrays or objects: no recursion needed -/
theorem dumps_split_flat (a b : Json) (r r' : List Char) (hf : headClass a < 2)
    (wa : a.wfTokens = true) (wb : b.wfTokens = true) (hr : okFollow r = true) (hr' : okFollow r' = true)
    (h : (dumps a).toList ++ r = (dumps b).toList ++ r') : a = b ∧ r = r' := by
  have hk := headClass_eq a b wa wb r r' h
  by_cases ha : headClass a = 0
  · have hb : headClass b = 0 := hk ▸ ha
    have ca := atom_chars a ha wa
    have cb := atom_chars b hb wb
    have := delimFree_split _ _ r r' (fun c hc => atomChar_not_delim c (ca.2 c hc))
      (fun c hc => atomChar_not_delim c (cb.2 c hc)) hr hr' h
    exact ⟨by rw [← atomOfText_dumps a ha wa, this.1, atomOfText_dumps b hb wb], this.2⟩
  · cases a with
    | str s =>
      cases b with
      | str s' =>
        have := strLit_inj s s' r r' (by simpa [dumps] using h)
        exact ⟨by rw [this.1], this.2⟩
      | _ => simp [headClass] at hk
    | arr as => simp [headClass] at hf
    | obj as => simp [headClass] at hf
    | _ => simp [headClass] at ha

theorem close_of_listRest (as bs : List Json) (r r' : List Char) (h : listRest as r = listRest bs r') :
    (dumpsList as).toList ++ ']' :: r = (dumpsList bs).toList ++ ']' :: r' := by
  cases as <;> cases bs <;> simp_all [listRest, dumpsList]

theorem close_of_itemsRest (as bs : List (String × Json)) (r r' : List Char) (h : itemsRest as r = itemsRest bs r') :
    (dumpsItems as).toList ++ '}' :: r = (dumpsItems bs).toList ++ '}' :: r' := by
  cases as <;> cases bs <;> simp_all [itemsRest, dumpsItems]

/-- a closed empty array body is not a closed non-empty one: a document does not start with `]` -/
theorem dumpsList_nil_ne_cons (b : Json) (bs : List Json) (r r' : List Char) (wb : wfTokensList (b :: bs) = true) :
    (dumpsList []).toList ++ ']' :: r ≠ (dumpsList (b :: bs)).toList ++ ']' :: r' := by
  simp only [wfTokensList, Bool.and_eq_true] at wb
  obtain ⟨c, rest, e, _, hd⟩ := dumps_head b wb.1
  rw [dumpsList_nil_close, dumpsList_cons_close, e]
  intro h
  rw [← (List.cons.inj h).1] at hd
  cases hd

theorem dumpsItems_nil_ne_cons (k : String) (j : Json) (bs : List (String × Json)) (r r' : List Char) :
    (dumpsItems []).toList ++ '}' :: r ≠ (dumpsItems ((k, j) :: bs)).toList ++ '}' :: r' := by
  rw [dumpsItems_nil_close, dumpsItems_cons_close, dumpsStr_toList]
  simp

mutual
/-- a printed document followed by a delimiter (or by nothing) determines the document and the rest -/
theorem dumps_split : ∀ (a b : Json) (r r' : List Char),
    a.wfTokens = true → b.wfTokens = true → okFollow r = true → okFollow r' = true →
    (dumps a).toList ++ r = (dumps b).toList ++ r' → a = b ∧ r = r'
  | .arr as => fun b r r' wa wb _ _ h => by
    have hk := headClass_eq _ _ wa wb r r' h
    cases b with
    | arr bs =>
      rw [dumps_arr, dumps_arr] at h
      simp only [List.cons_append, List.append_assoc, List.nil_append, List.cons.injEq, true_and] at h
      have := dumpsList_split as bs r r' wa wb h
      exact ⟨by rw [this.1], this.2⟩
    | _ => cases hk
  | .obj as => fun b r r' wa wb _ _ h => by
    have hk := headClass_eq _ _ wa wb r r' h
    cases b with
    | obj bs =>
      rw [dumps_obj, dumps_obj] at h
      simp only [List.cons_append, List.append_assoc, List.nil_append, List.cons.injEq, true_and] at h
      have := dumpsItems_split as bs r r' wa wb h
      exact ⟨by rw [this.1], this.2⟩
    | _ => cases hk
  | .null => fun b r r' => dumps_split_flat .null b r r' (by decide)
  | .bool x => fun b r r' => dumps_split_flat (.bool x) b r r' (by simp [headClass])
  | .int i => fun b r r' => dumps_split_flat (.int i) b r r' (by simp [headClass])
  | .float t => fun b r r' => dumps_split_flat (.float t) b r r' (by simp [headClass])
  | .str s => fun b r r' => dumps_split_flat (.str s) b r r' (by simp [headClass])

/-- the inside of an array up to its closing `]` determines the elements and the rest -/
theorem dumpsList_split : ∀ (as bs : List Json) (r r' : List Char),
    wfTokensList as = true → wfTokensList bs = true →
    (dumpsList as).toList ++ ']' :: r = (dumpsList bs).toList ++ ']' :: r' → as = bs ∧ r = r'
  | [], [] => fun r r' _ _ h => by simpa [dumpsList] using h
  | [], b :: bs => fun r r' _ wb h => absurd h (dumpsList_nil_ne_cons b bs r r' wb)
  | a :: as, [] => fun r r' wa _ h => absurd h.symm (dumpsList_nil_ne_cons a as r' r wa)
  | a :: as, b :: bs => fun r r' wa wb h => by
    simp only [wfTokensList, Bool.and_eq_true] at wa wb
    rw [dumpsList_cons_close, dumpsList_cons_close] at h
    obtain ⟨hab, hrest⟩ :=
      dumps_split a b _ _ wa.1 wb.1 (okFollow_listRest as r) (okFollow_listRest bs r') h
    have := dumpsList_split as bs r r' wa.2 wb.2 (close_of_listRest as bs r r' hrest)
    exact ⟨by rw [hab, this.1], this.2⟩

/-- the inside of an object up to its closing `}` determines the items (keys and values, in order)
and the rest -/
theorem dumpsItems_split : ∀ (as bs : List (String × Json)) (r r' : List Char),
    wfTokensItems as = true → wfTokensItems bs = true →
    (dumpsItems as).toList ++ '}' :: r = (dumpsItems bs).toList ++ '}' :: r' → as = bs ∧ r = r'
  | [], [] => fun r r' _ _ h => by simpa [dumpsItems] using h
  | [], (k', j') :: bs => fun r r' _ _ h => absurd h (dumpsItems_nil_ne_cons k' j' bs r r')
  | (k, j) :: as, [] => fun r r' _ _ h => absurd h.symm (dumpsItems_nil_ne_cons k j as r' r)
  | (k, j) :: as, (k', j') :: bs => fun r r' wa wb h => by
    simp only [wfTokensItems, Bool.and_eq_true] at wa wb
    rw [dumpsItems_cons_close, dumpsItems_cons_close] at h
    obtain ⟨hk, h⟩ := strLit_inj k k' _ _ h
    simp only [List.cons.injEq, true_and] at h
    obtain ⟨hab, hrest⟩ :=
      dumps_split j j' _ _ wa.1 wb.1 (okFollow_itemsRest as r) (okFollow_itemsRest bs r') h
    have := dumpsItems_split as bs r r' wa.2 wb.2 (close_of_itemsRest as bs r r' hrest)
    exact ⟨by rw [hk, hab, this.1], this.2⟩
end

/-- **`json.dumps` is injective** on documents whose float leaves carry float tokens.  No restriction
on strings (every Lean `String` is a sequence of Unicode scalar values; on Python strs with lone
surrogates injectivity really fails — known finding F07c), nesting depth, lengths or key sets. -/
theorem dumps_injective (a b : Json) (wa : a.wfTokens = true) (wb : b.wfTokens = true)
    (h : dumps a = dumps b) : a = b :=
  (dumps_split a b [] [] wa wb rfl rfl (by rw [h])).1

mutual
/-- every float parameter of the value, at every depth, carries a float token -/
def Value.wfFloats : Value → Bool
  | .scalar (.float tok) => wfFloatTok tok
  | .scalar _ => true
  | .enum _ _ => true
  | .tuple items => wfFloatsList items
  | .dict items => wfFloatsFields items
  | .task t => Task.wfFloats t
def Task.wfFloats : Task → Bool
  | .mk _ fields => wfFloatsFields fields
def wfFloatsList : List Value → Bool
  | [] => true
  | v :: vs => Value.wfFloats v && wfFloatsList vs
def wfFloatsFields : List (String × Value) → Bool
  | [] => true
  | (_, v) :: rest => Value.wfFloats v && wfFloatsFields rest
end

mutual
theorem serValue_wfTokens : ∀ v : Value, v.wfFloats = true → (serValue v).wfTokens = true
  | .scalar s, h => by
    cases s <;> simp_all [serValue, serScalar, Json.wfTokens, Value.wfFloats]
  | .enum c n, _ => rfl
  | .tuple items, h => serList_wfTokens items h
  | .dict items, h => serFields_wfTokens items h
  | .task t, h => serTask_wfTokens t h
theorem serTask_wfTokens : ∀ t : Task, t.wfFloats = true → (serTask t).wfTokens = true
  | .mk _ fields, h => serFields_wfTokens fields h
theorem serList_wfTokens : ∀ l : List Value, wfFloatsList l = true → wfTokensList (serList l) = true
  | [], _ => rfl
  | v :: vs, h => by
    simp only [wfFloatsList, Bool.and_eq_true] at h
    simp [serList, wfTokensList, serValue_wfTokens v h.1, serList_wfTokens vs h.2]
theorem serFields_wfTokens : ∀ l : List (String × Value), wfFloatsFields l = true → wfTokensItems (serFields l) = true
  | [], _ => rfl
  | (k, v) :: rest, h => by
    simp only [wfFloatsFields, Bool.and_eq_true] at h
    simp [serFields, wfTokensItems, serValue_wfTokens v h.1, serFields_wfTokens rest h.2]
end

end Lt.Params
