import LabtechModel.Proofs.IntrWalk
/-!
# M10: the invariant `Q` holds after EVERY prefix of the main stream, of the first handler's
stream and of the second handler's stream
-/
namespace Lt

variable {cfg : Config} {p : Problem}

/-- the between-any-two-primitives invariant -/
def Q (cfg : Config) (s : IS) : Prop := K s ∧ (cfg.backend = .serial → KS s)

theorem Q_init (store : Store) (fuel : Nat) : Q cfg (initIS cfg p store fuel) := by
  have hP := plan_PI cfg p store fuel
  have hA := plan_active cfg p store fuel
  refine ⟨⟨?_, by simp [initIS, initRS]⟩, fun _ => ⟨List.nodup_nil, fun j hj => by simp [initIS, initRS] at hj⟩⟩
  show KR (plan cfg p store fuel) []
  exact {
    ndF := List.nodup_nil
    futAct := fun t ht => by simp at ht
    ndA := by rw [hA]; exact List.nodup_nil
    ndP := hP.nodupP
    disj := fun t _ => by rw [hA]; simp
    sym1 := by
      intro t _ d hd
      rw [hP.pdEq]
      exact (hP.dual t d).mp hd
    sym2 := fun t _ d hd => (hP.dual d t).mpr hd
    ndDd := hP.nodupD
    ndPdt := hP.nodupDt }

theorem always_submitOne (s : IS) (t : Tid) (h : Q cfg s) (hrun : s.rs.status = .running)
    (ht : t ∈ s.rs.ts.pending) :
    Always cfg p (Q cfg) (submitOnePrims cfg p s t) s ∧
    Q cfg (runPrims cfg p (submitOnePrims cfg p s t) s) ∧
    (runPrims cfg p (submitOnePrims cfg p s t) s).rs.status = .running ∧
    (∀ x ∈ s.rs.ts.pending, x ≠ t → x ∈ (runPrims cfg p (submitOnePrims cfg p s t) s).rs.ts.pending) := by
  obtain ⟨s1k, s1a, s1f, s1p⟩ := step_startTask s t ⟨h.1.1, hrun⟩ ht
  by_cases hb : cfg.backend = .serial
  · simp only [submitOnePrims, hb, if_true, Always, runPrims_cons, runPrims_nil]
    have ks1 : KS (applyPrim cfg p (Prim.startTask t) s) := by
      rw [KS, applyPrim_queued _ _ rfl, applyPrim_futs _ _ rfl]; exact h.2 hb
    have s2k := step_serialAppend (cfg := cfg) (p := p) _ t s1k s1a s1f
    have ks2 : KS (applyPrim cfg p (Prim.serialAppend t) (applyPrim cfg p (Prim.startTask t) s)) := by
      have hr1 := s1k.run
      have htq : t ∉ (applyPrim cfg p (Prim.startTask t) s).rs.queued.map Job.tid := by
        intro hm
        obtain ⟨j, hj, rfl⟩ := List.mem_map.mp hm
        exact s1f (ks1.2 j hj)
      simp only [KS, applyPrim_running _ _ hr1, stepPrim, List.map_append, List.map_cons, List.map_nil, mkJob]
      refine ⟨?_, ?_⟩
      · rw [List.nodup_append]
        exact ⟨ks1.1, by simp, fun a ha b hb' => by
          simp only [List.mem_singleton] at hb'; subst hb'; exact fun hab => htq (hab ▸ ha)⟩
      · intro j hj
        simp only [List.mem_append, List.mem_singleton] at hj ⊢
        rcases hj with hj | rfl
        · exact Or.inl (ks1.2 j hj)
        · exact Or.inr rfl
    refine ⟨⟨h, ⟨s1k.k, fun _ => ks1⟩, s2k.k, fun _ => ks2⟩, ⟨s2k.k, fun _ => ks2⟩, s2k.run, ?_⟩
    intro x hx hxt
    rw [applyPrim_ts _ _ rfl]
    exact s1p x hx hxt
  · have hQK : ∀ s, K s → Q cfg s := fun s hs => ⟨hs, fun hb' => absurd hb' hb⟩
    simp only [submitOnePrims, hb, if_false]
    -- the predicate carried from `start_task` to `future_to_task[future] = task`
    let R : TS → List Tid → Status → Prop :=
      fun ts futs st => KR ts futs ∧ st = .running ∧ t ∈ ts.active ∧ t ∉ futs
    have r1 : coreP R (applyPrim cfg p (Prim.startTask t) s) := ⟨s1k.1, s1k.2, s1a, s1f⟩
    obtain ⟨mid, hmid⟩ : ∃ mid, mid = Prim.enqueue t ::
        startProcessesPrims cfg (runPrims cfg p [Prim.startTask t, Prim.enqueue t] s) := ⟨_, rfl⟩
    have hmq : ∀ q ∈ mid, q.quiet = true := by
      intro q hq
      rw [hmid] at hq
      simp only [List.mem_cons] at hq
      rcases hq with rfl | hq
      · rfl
      · exact startPrims_quiet _ q hq
    have hsplit : [Prim.startTask t, Prim.enqueue t] ++
        startProcessesPrims cfg (runPrims cfg p [Prim.startTask t, Prim.enqueue t] s) ++ [Prim.regFuture t]
        = Prim.startTask t :: (mid ++ [Prim.regFuture t]) := by rw [hmid]; simp
    rw [hsplit]
    have am := always_quiet (cfg := cfg) (p := p) R mid _ hmq r1
    have rm : coreP R (runPrims cfg p mid (applyPrim cfg p (Prim.startTask t) s)) := am.last
    obtain ⟨m1, m2, m3, m4⟩ := rm
    have e := step_regFuture (cfg := cfg) (p := p) _ t ⟨m1, m2⟩ m3 m4
    have pend : (runPrims cfg p mid (applyPrim cfg p (Prim.startTask t) s)).rs.ts =
        (applyPrim cfg p (Prim.startTask t) s).rs.ts := (quiet_run mid _ hmq).1
    refine ⟨⟨h, ?_⟩, ?_, ?_, ?_⟩
    · rw [always_append]
      refine ⟨am.mono (fun s hs => hQK s ⟨hs.1, by rw [hs.2.1]; simp⟩), ?_⟩
      exact ⟨hQK _ ⟨m1, by rw [m2]; simp⟩, hQK _ e.k⟩
    · rw [runPrims_cons, runPrims_append]; exact hQK _ e.k
    · rw [runPrims_cons, runPrims_append]; exact e.run
    · intro x hx hxt
      rw [runPrims_cons, runPrims_append, runPrims_cons, runPrims_nil, applyPrim_ts _ _ rfl, pend]
      exact s1p x hx hxt

theorem always_submit : ∀ (l : List Tid) (s : IS), Q cfg s → s.rs.status = .running → l.Nodup →
    (∀ t ∈ l, t ∈ s.rs.ts.pending) →
    Always cfg p (Q cfg) (submitPrims cfg p l s) s ∧ Q cfg (runPrims cfg p (submitPrims cfg p l s) s) := by
  intro l
  induction l with
  | nil => intro s h _ _ _; exact ⟨h, h⟩
  | cons t ts ih =>
    intro s h hrun hnd hmem
    have hnd' := List.nodup_cons.mp hnd
    obtain ⟨a1, a2, a3, a4⟩ := always_submitOne s t h hrun (hmem t List.mem_cons_self)
    obtain ⟨i1, i2⟩ := ih _ a2 a3 hnd'.2 (fun x hx => a4 x (hmem x (List.mem_cons_of_mem _ hx))
      (fun hxt => hnd'.1 (hxt ▸ hx)))
    simp only [submitPrims, always_append, runPrims_append]
    exact ⟨⟨a1, i1⟩, i2⟩

theorem always_cancel (s : IS) (h : Q cfg s) :
    Always cfg p (Q cfg) (cancelPrims cfg s) s := by
  simp only [cancelPrims]
  split
  · next hb =>
    refine ⟨h, step_clearDeque s h.1, fun _ => ?_⟩
    unfold applyPrim
    split
    · exact ⟨List.nodup_nil, fun j hj => by simp [stepPrim] at hj⟩
    · exact h.2 hb
  · next hb =>
    have : ∀ q ∈ s.rs.queued.map (fun j => Prim.cancelOne j.tid), q.quiet = true := by
      intro q hq; obtain ⟨j, _, rfl⟩ := List.mem_map.mp hq; rfl
    exact (always_K_quiet _ s this h.1).mono (fun s hs => ⟨hs, fun hb' => absurd hb' hb⟩)

theorem always_stop (s : IS) (h : Q cfg s) : Always cfg p (Q cfg) (stopPrims cfg s) s := by
  simp only [stopPrims]
  split
  · exact h
  · next hb =>
    refine (always_K_quiet _ s (fun q hq => ?_) h.1).mono (fun s hs => ⟨hs, fun hb' => absurd hb' hb⟩)
    obtain ⟨t, rfl⟩ := mem_stopPrims (cfg := cfg) (s := s) (by simp only [stopPrims, hb, if_false]; exact hq)
    rfl

theorem Q_walk (req : List Tid) : Walk cfg p req (Always cfg p (Q cfg)) :=
  Walk.ofAlways
    (fun s h hrun =>
      have hsub := readyAux_sublist p s.rs.ts s.rs.ts.pending (typeCount p s.rs.ts.active)
      (always_submit (readyTasks p s.rs.ts) s h hrun (hsub.nodup h.1.1.ndP) (fun _ ht => hsub.subset ht)).1)
    (fun c s h => by
      by_cases hb : cfg.backend = .serial
      · exact (always_wait_serial req c s h.1 (h.2 hb) hb).mono (fun s hs => ⟨hs.1, fun _ => hs.2⟩)
      · exact (always_wait_process req c s h.1 hb).mono (fun s hs => ⟨hs, fun hb' => absurd hb' hb⟩))
    always_cancel always_stop

end Lt
