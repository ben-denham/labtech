import LabtechModel.Proofs.ParamsNorm
/-! Serialiser: class strings, well-formedness, injectivity (through a registry-free decoder) and the
round trip through the real deserialiser + constructor. -/
namespace Lt.Params

/-- a qualified name without a dot: a module-level class -/
def dotFree (s : String) : Bool := s.toList.all (fun c => c != '.')

theorem splitLastDot_none : ∀ (q : List Char), q.all (fun c => c != '.') = true → splitLastDot q = none
  | [], _ => rfl
  | c :: cs, h => by
    simp only [List.all_cons, Bool.and_eq_true, bne_iff_ne, ne_eq] at h
    simp [splitLastDot, splitLastDot_none cs h.2, h.1]

theorem splitLastDot_append (q : List Char) (hq : q.all (fun c => c != '.') = true) :
    ∀ (m : List Char), splitLastDot (m ++ '.' :: q) = some (m, q)
  | [] => by simp [splitLastDot, splitLastDot_none q hq]
  | c :: m => by simp [splitLastDot, splitLastDot_append q hq m]

theorem parseClass_ser (c : ClassRef) (h : dotFree c.qualname = true) : parseClass c.ser = some c := by
  have : c.ser.toList = c.module.toList ++ '.' :: c.qualname.toList := by simp [ClassRef.ser]
  simp only [parseClass, this, splitLastDot_append _ h, String.ofList_toList]

def reservedKey (k : String) : Bool := k == "_is_task" || k == "__class__"

/-- `d.get(k, False)` is falsy for the frozendict with these items -/
def notFlagged (k : String) : List (String × Value) → Bool
  | [] => true
  | (k', v) :: rest => if k = k' then !(serValue v).truthy else notFlagged k rest

def noReserved : List (String × Value) → Bool
  | [] => true
  | (k, _) :: rest => !reservedKey k && noReserved rest

theorem noReserved_cons {k : String} {v : Value} {rest : List (String × Value)}
    (h : noReserved ((k, v) :: rest) = true) : (k == "_is_task" || k == "__class__") = false ∧ noReserved rest = true := by
  simpa [noReserved, reservedKey] using h

mutual
/-- the values on which the serialiser is injective: classes are module-level (the class string is split at its
last dot); no dict parameter has a truthy value under `_is_task` or `_is_enum` (it would be read back as a task /
an enum member: F07); no task field is called `_is_task` or `__class__` (the deserialiser skips those keys). -/
def wfValue : Value → Bool
  | .scalar _ => true
  | .enum c _ => dotFree c.qualname
  | .tuple items => wfList items
  | .dict items => notFlagged "_is_task" items && notFlagged "_is_enum" items && wfFields items
  | .task t => wfTask t
def wfTask : Task → Bool
  | .mk c fields => dotFree c.qualname && noReserved fields && wfFields fields
def wfList : List Value → Bool
  | [] => true
  | v :: vs => wfValue v && wfList vs
def wfFields : List (String × Value) → Bool
  | [] => true
  | (_, v) :: rest => wfValue v && wfFields rest
end

theorem flagged_serFields (k : String) :
    ∀ items, notFlagged k items = true → flagged k (serFields items) = false := by
  intro items
  induction items with
  | nil => intro _; simp [serFields, flagged, lookup]
  | cons kv rest ih =>
    obtain ⟨k', v⟩ := kv
    intro h
    simp only [notFlagged] at h
    simp only [serFields, flagged, lookup]
    split at h
    · next heq => subst heq; simp_all
    · next hne => simp only [hne, if_false]; exact ih h

mutual
/-- a left inverse of `serValue` on well-formed values (`dec_serValue`), which is all the injectivity proof needs.
Unlike `deValue` it asks no registry, so injectivity holds without any `TypedV` hypothesis. -/
def dec : Json → Option Value
  | .null => some (.scalar .none)
  | .bool b => some (.scalar (.bool b))
  | .int i => some (.scalar (.int i))
  | .float r => some (.scalar (.float r))
  | .str s => some (.scalar (.str s))
  | .arr items => (decList items).map .tuple
  | .obj items =>
    if flagged "_is_task" items then
      match lookup "__class__" items with
      | some (.str s) =>
        match parseClass s with
        | some c => (decFields true items).map (fun fs => .task (.mk c fs))
        | none => none
      | _ => none
    else if flagged "_is_enum" items then
      match lookup "__class__" items, lookup "name" items with
      | some (.str s), some (.str n) => (parseClass s).map (fun c => .enum c n)
      | _, _ => none
    else (decFields false items).map .dict
def decList : List Json → Option (List Value)
  | [] => some []
  | j :: js => do let v ← dec j; let vs ← decList js; pure (v :: vs)
def decFields (skip : Bool) : List (String × Json) → Option (List (String × Value))
  | [] => some []
  | (k, j) :: rest =>
    if skip && (k == "_is_task" || k == "__class__") then decFields skip rest
    else do let v ← dec j; let vs ← decFields skip rest; pure ((k, v) :: vs)
end

mutual
theorem dec_serValue : ∀ v, wfValue v = true → dec (serValue v) = some v
  | .scalar s, _ => by cases s <;> simp [serValue, serScalar, dec]
  | .enum c name, h => by
    simp [serValue, dec, flagged, lookup, Json.truthy, parseClass_ser c h]
  | .tuple items, h => by simp [serValue, dec, dec_serList items h]
  | .dict items, h => by
    simp only [wfValue, Bool.and_eq_true] at h
    obtain ⟨⟨h1, h2⟩, h3⟩ := h
    simp [serValue, dec, flagged_serFields _ _ h1, flagged_serFields _ _ h2, dec_serFields_false items h3]
  | .task t, h => dec_serTask t h
theorem dec_serTask : ∀ t, wfTask t = true → dec (serTask t) = some (.task t)
  | .mk c fields, h => by
    simp only [wfTask, Bool.and_eq_true] at h
    obtain ⟨⟨hc, hr⟩, hf⟩ := h
    simp [serTask, dec, flagged, lookup, Json.truthy, parseClass_ser c hc, decFields, dec_serFields_true fields hr hf]
theorem dec_serList : ∀ l, wfList l = true → decList (serList l) = some l
  | [], _ => by simp [serList, decList]
  | v :: vs, h => by
    simp only [wfList, Bool.and_eq_true] at h
    simp [serList, decList, dec_serValue v h.1, dec_serList vs h.2]
theorem dec_serFields_false : ∀ l, wfFields l = true → decFields false (serFields l) = some l
  | [], _ => by simp [serFields, decFields]
  | (k, v) :: rest, h => by
    simp only [wfFields, Bool.and_eq_true] at h
    simp [serFields, decFields, dec_serValue v h.1, dec_serFields_false rest h.2]
theorem dec_serFields_true : ∀ l, noReserved l = true → wfFields l = true → decFields true (serFields l) = some l
  | [], _, _ => by simp [serFields, decFields]
  | (k, v) :: rest, hr, h => by
    simp only [wfFields, Bool.and_eq_true] at h
    obtain ⟨hk, hr⟩ := noReserved_cons hr
    simp [serFields, decFields, hk, dec_serValue v h.1, dec_serFields_true rest hr h.2]
end

theorem serValue_injective (v w : Value) (hv : wfValue v = true) (hw : wfValue w = true)
    (h : serValue v = serValue w) : v = w :=
  Option.some.inj (by rw [← dec_serValue v hv, h, dec_serValue w hw])

theorem serTask_injective (t u : Task) (ht : wfTask t = true) (hu : wfTask u = true)
    (h : serTask t = serTask u) : t = u :=
  Value.task.inj (Option.some.inj (by rw [← dec_serTask t ht, h, dec_serTask u hu]))

mutual
/-- what `deserialize_value` builds from the serialisation of `v`: lists and plain dicts, and fully
constructed nested tasks -/
def thaw : Value → Raw
  | .scalar s => .scalar s
  | .enum c n => .enum c n
  | .tuple items => .list (thawList items)
  | .dict items => .dict (thawFields items)
  | .task t => .task t
def thawList : List Value → List Raw
  | [] => []
  | v :: vs => thaw v :: thawList vs
def thawFields : List (String × Value) → List (RawKey × Raw)
  | [] => []
  | (k, v) :: rest => (.str k, thaw v) :: thawFields rest
end

def thawPairs : List (String × Value) → List (String × Raw)
  | [] => []
  | (k, v) :: rest => (k, thaw v) :: thawPairs rest

mutual
theorem normalize_thaw : ∀ v, normalize (thaw v) = .ok v
  | .scalar _ | .enum _ _ | .task _ => by simp [thaw, normalize]
  | .tuple items => by simp [thaw, normalize, normList_thaw items]
  | .dict items => by simp [thaw, normalize, normItems_thaw items]
theorem normList_thaw : ∀ l, normList (thawList l) = .ok l
  | [] => by simp [thawList, normList]
  | v :: vs => by simp [thawList, normList, normalize_thaw v, normList_thaw vs]
theorem normItems_thaw : ∀ l, normItems (thawFields l) = .ok l
  | [] => by simp [thawFields, normItems]
  | (k, v) :: rest => by simp [thawFields, normItems, normalize_thaw v, normItems_thaw rest]
end

def keys (l : List (String × Value)) : List String := l.map Prod.fst

theorem keys_cons (k : String) (v : Value) (l : List (String × Value)) : keys ((k, v) :: l) = k :: keys l := rfl

mutual
/-- the value only mentions classes the registry can import, with the right field / member names -/
def TypedV (reg : Reg) : Value → Prop
  | .scalar _ => True
  | .enum c n => ∃ ms, reg.enumMembers c = some ms ∧ n ∈ ms
  | .tuple items => TypedL reg items
  | .dict items => TypedF reg items
  | .task t => TypedT reg t
def TypedT (reg : Reg) : Task → Prop
  | .mk c fields => reg.taskFields c = some (keys fields) ∧ (keys fields).Nodup ∧ TypedF reg fields
def TypedL (reg : Reg) : List Value → Prop
  | [] => True
  | v :: vs => TypedV reg v ∧ TypedL reg vs
def TypedF (reg : Reg) : List (String × Value) → Prop
  | [] => True
  | (_, v) :: rest => TypedV reg v ∧ TypedF reg rest
end

theorem lookupRaw_thawPairs : ∀ (l : List (String × Value)), (keys l).Nodup →
    ∀ kv ∈ l, lookupRaw kv.1 (thawPairs l) = some (thaw kv.2)
  | [], _, _, hm => nomatch hm
  | (k', v') :: l, hn, kv, hm => by
    obtain ⟨hk', hn⟩ := List.nodup_cons.mp hn
    rcases List.mem_cons.mp hm with rfl | hm
    · simp [thawPairs, lookupRaw]
    · have hne : kv.1 ≠ k' := fun e => hk' (e ▸ (List.mem_map_of_mem hm : kv.1 ∈ keys l))
      simp [thawPairs, lookupRaw, hne, lookupRaw_thawPairs l hn kv hm]

/-- `task_cls(**params)`: every field is found by name and its `thaw`ed value normalises back -/
theorem buildFields_of_lookup (params : List (String × Raw)) : ∀ fs : List (String × Value),
    (∀ kv ∈ fs, lookupRaw kv.1 params = some (thaw kv.2)) → buildFields params (keys fs) = .ok fs
  | [], _ => rfl
  | (k, v) :: rest, h => by
    have ih := buildFields_of_lookup params rest fun kv hkv => h kv (List.mem_cons_of_mem _ hkv)
    simp [keys_cons, buildFields, h (k, v) List.mem_cons_self, normalize_thaw v, ih]

mutual
theorem deValue_serValue (reg : Reg) : ∀ v, wfValue v = true → TypedV reg v → deValue reg (serValue v) = .ok (thaw v)
  | .scalar s, _, _ => by cases s <;> simp [serValue, serScalar, deValue, thaw]
  | .enum c name, h, ht => by
    obtain ⟨ms, hms, hn⟩ := ht
    simp [serValue, deValue, flagged, lookup, Json.truthy, deEnum, classOf, parseClass_ser c h, hms, hn, thaw]
  | .tuple items, h, ht => by simp [serValue, deValue, deList_serList reg items h ht, thaw]
  | .dict items, h, ht => by
    simp only [wfValue, Bool.and_eq_true] at h
    obtain ⟨⟨h1, h2⟩, h3⟩ := h
    simp [serValue, deValue, flagged_serFields _ _ h1, flagged_serFields _ _ h2, deDict_serFields reg items h3 ht, thaw]
  | .task t, h, ht => deValue_serTask reg t h ht
theorem deValue_serTask (reg : Reg) : ∀ t, wfTask t = true → TypedT reg t → deValue reg (serTask t) = .ok (.task t)
  | .mk c fields, h, ht => by
    simp only [wfTask, Bool.and_eq_true] at h
    obtain ⟨⟨hc, hr⟩, hf⟩ := h
    obtain ⟨hreg, hnd, htf⟩ := ht
    have hb := buildFields_of_lookup _ fields (lookupRaw_thawPairs fields hnd)
    simp [serTask, deValue, flagged, lookup, Json.truthy, classOf, parseClass_ser c hc, hreg, deTaskFields,
      deTaskFields_ser reg (keys fields) fields (fun k hk => hk) hr hf htf, hb]
theorem deList_serList (reg : Reg) : ∀ l, wfList l = true → TypedL reg l → deList reg (serList l) = .ok (thawList l)
  | [], _, _ => by simp [serList, deList, thawList]
  | v :: vs, h, ht => by
    simp only [wfList, Bool.and_eq_true] at h
    simp only [TypedL] at ht
    simp [serList, deList, thawList, deValue_serValue reg v h.1 ht.1, deList_serList reg vs h.2 ht.2]
theorem deDict_serFields (reg : Reg) : ∀ l, wfFields l = true → TypedF reg l → deDict reg (serFields l) = .ok (thawFields l)
  | [], _, _ => by simp [serFields, deDict, thawFields]
  | (k, v) :: rest, h, ht => by
    simp only [wfFields, Bool.and_eq_true] at h
    simp only [TypedF] at ht
    simp [serFields, deDict, thawFields, deValue_serValue reg v h.1 ht.1, deDict_serFields reg rest h.2 ht.2]
theorem deTaskFields_ser (reg : Reg) (names : List String) : ∀ l, (∀ k ∈ keys l, k ∈ names) → noReserved l = true →
    wfFields l = true → TypedF reg l → deTaskFields reg names (serFields l) = .ok (thawPairs l)
  | [], _, _, _, _ => by simp [serFields, deTaskFields, thawPairs]
  | (k, v) :: rest, hn, hr, h, ht => by
    simp only [wfFields, Bool.and_eq_true] at h
    simp only [TypedF] at ht
    obtain ⟨hk, hr⟩ := noReserved_cons hr
    obtain ⟨hkn, hn'⟩ := List.forall_mem_cons.mp hn
    simp [serFields, deTaskFields, thawPairs, hk, hkn, deValue_serValue reg v h.1 ht.1,
      deTaskFields_ser reg names rest hn' hr h.2 ht.2]
end

/-- `deserialize_task(serialize_task(t))` rebuilds `t` -/
theorem deTask_serTask (reg : Reg) (t : Task) (h : wfTask t = true) (ht : TypedT reg t) :
    deTask reg (serTask t) = .ok t := by
  have := deValue_serTask reg t h ht
  cases t with
  | mk c fields =>
    simp only [serTask] at this ⊢
    simp [deTask, flagged, lookup, Json.truthy, this]

end Lt.Params
