import LabtechModel.Proofs.LinkKeys
/-!
# A small universe on which every hypothesis of the two links holds

Three tasks with real parameter trees: `0 = m.Leaf(x=1)` (PickleCache), `1 = m.Raw(y="a")`
(`cache=None`), `2 = m.Box(a=Leaf(x=1), b=Raw(y="a"))` (a second cache class) with dependencies
`[0, 1]`.  The universe `exPU` takes its type and hash numbers from the parameter trees
(`paramsUniverse`); `exSha` is a stand-in digest function with 40-character values that does not
collide on the three pre-images: it only looks at the length modulo 41, and the three lengths are
49, 50 and 153.
-/
namespace Lt.Link
open Lt.Params (Task cacheKeyPre serTask dumps wfTask)

def exLeaf : Task := .mk ⟨"m", "Leaf"⟩ [("x", .scalar (.int 1))]
def exRaw : Task := .mk ⟨"m", "Raw"⟩ [("y", .scalar (.str "a"))]
def exBox : Task := .mk ⟨"m", "Box"⟩ [("a", .task exLeaf), ("b", .task exRaw)]

def exTask (t : Nat) : Task := if t = 0 then exLeaf else if t = 1 then exRaw else exBox

/-- 40 characters, determined by the length of the input modulo 41 -/
def exSha (s : String) : String :=
  String.ofList (List.replicate (s.length % 41) 'a' ++ List.replicate (40 - s.length % 41) 'b')

theorem exSha_eq : exSha = Lt.Params.C07.exSha := rfl

theorem exSha_len (x : String) : (exSha x).toList.length = 40 := exSha_eq ▸ Lt.Params.C07.exSha_len x

def exBase : Store.Universe :=
  { n := 3, ty := fun _ => 0,
    cacheOf := fun c => if c = strCode "m.Raw" then .null else if c = strCode "m.Box" then .other else .pickle,
    deps := fun t => if t = 2 then [0, 1] else [], fails := fun _ => false, hash := fun _ => 0,
    value := fun t g vs => 1000 * t + g + vs.foldl (· + ·) 0, namePrefix := fun a b => a == b,
    nullStorage := false }

def exPU : Store.Universe := paramsUniverse exBase exSha exTask

theorem exPU_n : exPU.n = 3 := rfl

theorem exPre_leaf : cacheKeyPre exLeaf = "{\"_is_task\": true, \"__class__\": \"m.Leaf\", \"x\": 1}" := by
  decide +kernel

theorem exPre_raw : cacheKeyPre exRaw = "{\"_is_task\": true, \"__class__\": \"m.Raw\", \"y\": \"a\"}" := by
  decide +kernel

theorem exPre_box : cacheKeyPre exBox =
    "{\"_is_task\": true, \"__class__\": \"m.Box\", \"a\": " ++ cacheKeyPre exLeaf ++ ", \"b\": "
      ++ cacheKeyPre exRaw ++ "}" := by
  decide +kernel

theorem exPre_length : ∀ t : Fin 3, (cacheKeyPre (exTask t.val)).length = [49, 50, 153].get t := by
  -- a literal is `String.ofList` of its characters: its length is read off by `String.length_ofList`, not evaluated
  have hl : (cacheKeyPre exLeaf).length = 49 := exPre_leaf ▸ String.length_ofList
  have hr : (cacheKeyPre exRaw).length = 50 := exPre_raw ▸ String.length_ofList
  have h1 : "{\"_is_task\": true, \"__class__\": \"m.Box\", \"a\": ".length = 46 := String.length_ofList
  have h2 : ", \"b\": ".length = 7 := String.length_ofList
  have h3 : "}".length = 1 := String.length_ofList
  have hb : (cacheKeyPre exBox).length = 153 := by
    rw [exPre_box, String.length_append, String.length_append, String.length_append, String.length_append,
      h1, h2, h3, hl, hr]
  exact fun
    | 0 => hl
    | 1 => hr
    | 2 => hb

theorem exPre_sep {t t' : Nat} (ht : t < 3) (ht' : t' < 3)
    (h : (cacheKeyPre (exTask t)).length % 41 = (cacheKeyPre (exTask t')).length % 41) : t = t' := by
  have key : ∀ a b : Fin 3, [49, 50, 153].get a % 41 = [49, 50, 153].get b % 41 → a = b := by decide
  have := key ⟨t, ht⟩ ⟨t', ht'⟩ (by rw [← exPre_length, ← exPre_length]; exact h)
  exact congrArg Fin.val this

theorem exTask_wf : WfTasks exPU.n exTask := by
  have key : ∀ t : Fin 3, wfTask (exTask t.val) = true := by decide +kernel
  intro t ht
  exact key ⟨t, ht⟩

theorem exTask_distinct : Distinct exPU.n exTask :=
  fun _ _ ht ht' h => exPre_sep ht ht' (by rw [h])

theorem exTask_dumpsInj : DumpsInjOn exPU.n exTask :=
  fun _ _ ht ht' h => by rw [exPre_sep ht ht' (congrArg (fun s => s.length % 41) h)]

theorem exSha_injOn : ShaInjOn exSha exPU.n exTask :=
  fun _ _ ht ht' h => by rw [exPre_sep ht ht' (Lt.Params.C07.exSha_length_mod (exSha_eq ▸ h))]

theorem exPU_represents : Represents exPU exSha exTask := paramsUniverse_represents exBase exSha exTask

/-- `KeyInj` of the example universe, obtained from the params model -/
theorem exPU_keyInj : Store.KeyInj exPU :=
  keyInj_of_params exPU exSha exTask exPU_represents exTask_wf exTask_distinct exSha_injOn exTask_dumpsInj

end Lt.Link
