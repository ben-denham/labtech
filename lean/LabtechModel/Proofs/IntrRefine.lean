import LabtechModel.Proofs.IntrBasic
/-!
# M10 refines M4: executing all primitives of an iteration is `Lt.iteration`

Block by block: each block of primitives, run from a state whose `rs` is `r`, ends in a state whose `rs` is the
coarse model's operation on `r` (`submitAll`, `waitProcess`, `waitSerial`); the executor's ghost fields that a
loop head needs clean (`LHead`) are clean again at the end of the iteration.
-/
namespace Lt

variable {cfg : Config} {p : Problem}

def IS.setResults (s : IS) (r : List (Tid × Val)) : IS := { s with rs := { s.rs with results := r } }

theorem removeResult_fold : ∀ (rem : List Tid) (s : IS), s.rs.status = .running →
    runPrims cfg p (rem.map Prim.removeResult) s = s.setResults (removeResults s.rs.results rem) := by
  intro rem
  induction rem with
  | nil =>
    intro s _
    have : s.rs.results.filter (fun _ => true) = s.rs.results := List.filter_eq_self.mpr (by simp)
    simp [removeResults, IS.setResults, this]
  | cons d ds ih =>
    intro s hrun
    simp only [List.map_cons, runPrims_cons, applyPrim_running _ _ hrun, stepPrim]
    refine Eq.trans (ih _ hrun) ?_
    simp only [IS.setResults, removeResults, List.filter_filter]
    congr 2
    apply List.filter_congr
    intro x _
    simp only [List.mem_cons, not_or, decide_not, ne_eq, Bool.decide_and]
    exact Bool.and_comm _ _

theorem removePrims_refine (rem : List Tid) (s : IS) (hrun : s.rs.status = .running) :
    runPrims cfg p (removePrims rem) s =
      { s with rs := { s.rs with results := removeResults s.rs.results rem,
                                 trace := s.rs.trace ++ [Ev.remove rem ((removeResults s.rs.results rem).map (·.1))] } } := by
  simp only [removePrims, runPrims_append, removeResult_fold rem s hrun, runPrims_cons, runPrims_nil]
  rw [applyPrim_running _ _ (by exact hrun)]
  rfl

/-- pop + the consumer's loop body for one yielded outcome is `processYield` -/
theorem doneOne_refine (req : List Tid) (s : IS) (t : Tid) (o : Outcome)
    (hrun : s.rs.status = .running) (hmem : t ∈ s.rs.futs) (hc : completeTask s.rs.ts t ≠ none) :
    runPrims cfg p (Prim.popFuture t (some o) :: yieldPrims cfg req s.rs.ts t o) s =
      { s with done := s.done.filter (fun x => x.1 ≠ t),
               rs := processYield cfg req { s.rs with futs := s.rs.futs.filter (· ≠ t) } t o } := by
  cases hct : completeTask s.rs.ts t with
  | none => exact absurd hct hc
  | some r =>
    obtain ⟨ts', rem⟩ := r
    simp only [runPrims_cons, applyPrim_running _ _ hrun, stepPrim, hmem, if_true]
    cases o with
    | ok v =>
      by_cases hreq : t ∈ req
      all_goals
        simp only [yieldPrims, remOf, hct, processYield, runPrims_append, runPrims_cons, runPrims_nil,
          hreq, if_true, if_false]
        simp only [applyPrim_running, hrun, stepPrim]
        refine Eq.trans (congrArg (runPrims cfg p (removePrims rem))
          (complete_refine _ s.rs.ts t ts' rem rfl rfl hct)) ?_
        rw [removePrims_refine]
        · rfl
        · rfl
    | exc | died =>
      by_cases hcf : cfg.contOnFail = true
      · simp only [yieldPrims, remOf, hct, processYield, runPrims_append, hcf, if_true]
        refine Eq.trans (congrArg (runPrims cfg p (removePrims rem))
          (complete_refine _ s.rs.ts t ts' rem hrun rfl hct)) ?_
        rw [removePrims_refine]
        · simp [IS.setTS, hrun]
        · exact hrun
      · simp only [yieldPrims, remOf, hct, processYield, runPrims_append, hcf]
        refine Eq.trans (congrArg (runPrims cfg p [Prim.raiseLabError t])
          (complete_refine _ s.rs.ts t ts' rem hrun rfl hct)) ?_
        simp only [runPrims_cons, runPrims_nil]
        rw [applyPrim_running]
        · simp [IS.setTS, stepPrim]
        · exact hrun

theorem processYields_stopped (req : List Tid) (ys : List (Tid × Outcome)) (rs : RS)
    (h : rs.status ≠ .running) : processYields cfg req ys rs = rs := by
  cases ys with
  | nil => rfl
  | cons y ys =>
    obtain ⟨t, o⟩ := y
    unfold processYields
    cases hs : rs.status <;> simp_all

theorem processYield_futs (req : List Tid) (rs : RS) (t : Tid) (o : Outcome) :
    (processYield cfg req rs t o).futs = rs.futs := by
  simp only [processYield]
  cases o <;> (simp only; split <;> rfl)

theorem find_filter_ne {α} (l : List (Tid × α)) (t t' : Tid) (h : t' ≠ t) :
    (l.filter (fun x => x.1 ≠ t)).find? (fun x => x.1 = t') = l.find? (fun x => x.1 = t') := by
  induction l with
  | nil => rfl
  | cons x xs ih =>
    simp only [List.filter_cons]
    split
    · simp only [List.find?_cons, ih]
    · next hx =>
      have hx : x.1 = t := by simpa using hx
      have : decide (x.1 = t') = false := by simp [hx, Ne.symm h]
      simp only [List.find?_cons, this, ih]

theorem filter_ne_of_find_none {α} (l : List (Tid × α)) (t : Tid)
    (h : l.find? (fun x => x.1 = t) = none) : l.filter (fun x => x.1 ≠ t) = l := by
  rw [List.filter_eq_self]
  intro x hx
  have := List.find?_eq_none.mp h x hx
  simpa using this

theorem processYields_cons_running (req : List Tid) (t : Tid) (o : Outcome) (ys : List (Tid × Outcome))
    (rs : RS) (h : rs.status = .running) :
    processYields cfg req ((t, o) :: ys) rs =
      processYields cfg req ys (processYield cfg req { rs with futs := rs.futs.filter (· ≠ t) } t o) := by
  conv => lhs; unfold processYields
  split
  · rfl
  · next h' => exact absurd h (by intro hh; exact h' hh)

theorem filter_notin_cons {α} (l : List (Tid × α)) (t : Tid) (rest : List Tid) :
    (l.filter (fun x => x.1 ≠ t)).filter (fun x => x.1 ∉ rest) = l.filter (fun x => x.1 ∉ t :: rest) := by
  rw [List.filter_filter]
  apply List.filter_congr
  intro x _
  by_cases h1 : x.1 = t <;> by_cases h2 : x.1 ∈ rest <;> simp [h1, h2]

/-- `for future in done:` + consumer loop = `processYields` over the done futures -/
theorem donePrims_refine (req : List Tid) : ∀ (cands : List Tid) (s : IS),
    s.cancelled = [] → cands.Nodup → (∀ t ∈ cands, t ∈ s.rs.futs) →
    (processYields cfg req (cands.filterMap (fun t => s.done.find? (fun x => x.1 = t))) s.rs).status
      ≠ .raised .keyError →
    ∃ d, runPrims cfg p (donePrims cfg p req cands s) s =
        { s with done := d,
                 rs := processYields cfg req (cands.filterMap (fun t => s.done.find? (fun x => x.1 = t))) s.rs } ∧
      ((processYields cfg req (cands.filterMap (fun t => s.done.find? (fun x => x.1 = t))) s.rs).status = .running →
        d = s.done.filter (fun x => x.1 ∉ cands)) := by
  intro cands
  induction cands with
  | nil =>
    intro s _ _ _ _
    refine ⟨s.done, rfl, fun _ => ?_⟩
    exact (List.filter_eq_self.mpr (by simp)).symm
  | cons t rest ih =>
    intro s hcan hnd hmem hnk
    have hnd' := List.nodup_cons.mp hnd
    by_cases hrun : s.rs.status = .running
    · have hnc : t ∉ s.cancelled := by simp [hcan]
      rw [donePrims_cons_running req t rest s hrun]
      cases hf : s.done.find? (fun x => x.1 = t) with
      | none =>
        have hone : doneOnePrims cfg req s t = [] := by simp only [doneOnePrims, hnc, if_false, hf]
        simp only [List.filterMap_cons, hf] at hnk ⊢
        obtain ⟨d, h1, h2⟩ := ih s hcan hnd'.2 (fun t' ht' => hmem t' (List.mem_cons_of_mem _ ht')) hnk
        rw [hone]
        refine ⟨d, h1, fun hr => ?_⟩
        rw [h2 hr, ← filter_notin_cons, filter_ne_of_find_none s.done t hf]
      | some y =>
        obtain ⟨t', o⟩ := y
        have ht' : t' = t := by simpa using List.find?_some hf
        subst ht'
        have hone : doneOnePrims cfg req s t' = Prim.popFuture t' (some o) :: yieldPrims cfg req s.rs.ts t' o := by
          simp only [doneOnePrims, hnc, if_false, hf]
        simp only [List.filterMap_cons, hf] at hnk ⊢
        rw [processYields_cons_running req t' o _ s.rs hrun] at hnk ⊢
        have htf : t' ∈ s.rs.futs := hmem t' List.mem_cons_self
        have hc : completeTask s.rs.ts t' ≠ none := by
          intro hcn
          apply hnk
          rw [processYields_stopped]
          all_goals (cases o <;> simp [processYield, hcn])
        rw [hone, runPrims_append, doneOne_refine req s t' o hrun htf hc]
        obtain ⟨s1, hs1⟩ : ∃ s1 : IS, { s with
            done := s.done.filter (fun x => x.1 ≠ t'),
            rs := processYield cfg req { s.rs with futs := s.rs.futs.filter (· ≠ t') } t' o } = s1 := ⟨_, rfl⟩
        rw [hs1]
        have hs1rs : s1.rs = processYield cfg req { s.rs with futs := s.rs.futs.filter (· ≠ t') } t' o := by
          rw [← hs1]
        have hs1d : s1.done = s.done.filter (fun x => x.1 ≠ t') := by rw [← hs1]
        have hs1c : s1.cancelled = [] := by rw [← hs1]; exact hcan
        rw [← hs1rs] at hnk ⊢
        have hfm : rest.filterMap (fun t => s1.done.find? (fun x => x.1 = t)) =
            rest.filterMap (fun t => s.done.find? (fun x => x.1 = t)) := by
          apply filterMap_congr'
          intro x hx
          rw [hs1d]
          exact find_filter_ne s.done t' x (fun h => hnd'.1 (h ▸ hx))
        have hmem1 : ∀ x ∈ rest, x ∈ s1.rs.futs := by
          intro x hx
          rw [hs1rs, processYield_futs]
          simp only [List.mem_filter, decide_eq_true_eq]
          exact ⟨hmem x (List.mem_cons_of_mem _ hx), fun h => hnd'.1 (h ▸ hx)⟩
        obtain ⟨d, h1, h2⟩ := ih s1 hs1c hnd'.2 hmem1 (by rw [hfm]; exact hnk)
        rw [hfm] at h1 h2
        refine ⟨d, ?_, fun hr => ?_⟩
        · rw [h1, ← hs1]
        · rw [h2 hr, hs1d, filter_notin_cons]
    · refine ⟨s.done, ?_, fun hr => ?_⟩
      · rw [donePrims_stopped req _ s hrun, processYields_stopped _ _ _ hrun]
        rfl
      · rw [processYields_stopped _ _ _ hrun] at hr
        exact absurd hr hrun

theorem startPrims_run : ∀ (go : List Job) (s : IS) (stay : List Job), s.rs.status = .running →
    s.rs.queued = go ++ stay →
    runPrims cfg p (startPrims go) s =
      { s with alive := s.alive ++ go.map Job.tid,
               rs := { s.rs with queued := stay,
                                 running := s.rs.running ++ go.map (forkSnap cfg s.rs.results),
                                 trace := s.rs.trace ++ go.map (fun j => Ev.start j.tid) } } := by
  intro go
  induction go with
  | nil =>
    intro s stay _ hq
    simp only [List.nil_append] at hq
    simp [startPrims, ← hq]
  | cons j go ih =>
    intro s stay hrun hq
    have hfind : s.rs.queued.find? (hasTid j.tid) = some j := by
      rw [hq]; simp [hasTid]
    have herase : s.rs.queued.eraseP (hasTid j.tid) = go ++ stay := by
      rw [hq]; simp [hasTid]
    rw [startPrims_cons, runPrims_append]
    simp only [runPrims_cons, runPrims_nil]
    simp only [applyPrim_running, hrun, stepPrim, hfind, herase]
    rw [ih _ stay rfl rfl]
    simp [List.append_assoc]

theorem startProcessesPrims_refine (s : IS) (hrun : s.rs.status = .running) (hz : s.zombies = []) :
    runPrims cfg p (startProcessesPrims cfg s) s =
      { s with alive := s.alive ++ (takeN (cfg.maxWorkers - s.rs.running.length) s.rs.queued).1.map Job.tid,
               rs := startProcesses cfg s.rs } := by
  have hq := (takeN_append (cfg.maxWorkers - s.rs.running.length) s.rs.queued).symm
  have hsp : startProcessesPrims cfg s =
      startPrims (takeN (cfg.maxWorkers - s.rs.running.length) s.rs.queued).1 := by
    simp only [startProcessesPrims, hz, List.length_nil, Nat.add_zero]
  rw [hsp, startPrims_run _ s _ hrun hq]
  have htid : ∀ (l : List Job), (l.map (forkSnap cfg s.rs.results)).map (fun j => Ev.start j.tid)
      = l.map (fun j => Ev.start j.tid) := by
    intro l
    rw [List.map_map]
    apply List.map_congr_left
    intro j _
    simp only [Function.comp, forkSnap]
    split <;> rfl
  simp only [startProcesses]
  rw [← htid]
  rfl

theorem submitOne_refine (s : IS) (t : Tid) (ts' : TS) (hrun : s.rs.status = .running)
    (hz : s.zombies = []) (hst : startTask s.rs.ts t = some ts') :
    ∃ A, runPrims cfg p (submitOnePrims cfg p s t) s =
      { s with alive := A, rs := submitTask cfg p { s.rs with ts := ts' } t } := by
  by_cases hb : cfg.backend = .serial
  · refine ⟨s.alive, ?_⟩
    simp only [submitOnePrims, hb, if_true, runPrims_cons, runPrims_nil]
    simp only [applyPrim_running, hrun, stepPrim, hst, submitTask, hb, if_true, mkJob]
  · simp only [submitOnePrims, hb, if_false, runPrims_append, runPrims_cons, runPrims_nil]
    simp only [applyPrim_running, hrun, stepPrim, hst]
    rw [startProcessesPrims_refine]
    rotate_left
    · rfl
    · exact hz
    apply Exists.intro
    rw [applyPrim_running _ _ (by simp [startProcesses_status])]
    simp only [stepPrim, submitTask, hb, if_false, mkJob, startProcesses]
    rfl

theorem submitPrims_refine : ∀ (l : List Tid) (s : IS), s.rs.status = .running → s.zombies = [] →
    ∃ A, runPrims cfg p (submitPrims cfg p l s) s = { s with alive := A, rs := submitAll cfg p l s.rs } := by
  intro l
  induction l with
  | nil => intro s _ _; exact ⟨s.alive, rfl⟩
  | cons t ts ih =>
    intro s hrun hz
    simp only [submitPrims, runPrims_append, submitAll]
    cases hst : startTask s.rs.ts t with
    | none =>
      refine ⟨s.alive, ?_⟩
      have h1 : runPrims cfg p (submitOnePrims cfg p s t) s = keyErr s := by
        have : ∃ rest, submitOnePrims cfg p s t = Prim.startTask t :: rest := by
          simp only [submitOnePrims]; split <;> exact ⟨_, rfl⟩
        obtain ⟨rest, hr⟩ := this
        rw [hr, runPrims_cons, applyPrim_running _ _ hrun]
        simp only [stepPrim, hst]
        exact runPrims_stopped _ _ (by simp [keyErr])
      rw [h1, runPrims_stopped _ _ (by simp [keyErr])]
      rfl
    | some ts' =>
      obtain ⟨A, hA⟩ := submitOne_refine s t ts' hrun hz hst
      rw [hA]
      obtain ⟨B, hB⟩ := ih { s with alive := A, rs := submitTask cfg p { s.rs with ts := ts' } t }
        (by simp [submitTask_status, hrun]) hz
      exact ⟨B, hB⟩

theorem markDead_fold : ∀ (Z : List Tid) (s : IS), s.rs.status = .running → s.cancelled = [] →
    s.zombies = Z →
    runPrims cfg p (Z.map Prim.markDead) s =
      { s with zombies := [], done := s.done ++ Z.map (fun t => (t, Outcome.died)) } := by
  intro Z
  induction Z with
  | nil =>
    intro s _ _ hz
    cases s
    simp_all
  | cons t Z ih =>
    intro s hrun hc hz
    have ht : t ∈ s.zombies := by rw [hz]; exact List.mem_cons_self
    have hnc : t ∉ s.cancelled := by simp [hc]
    simp only [List.map_cons, runPrims_cons, applyPrim_running _ _ hrun, stepPrim, ht, if_true, hnc,
      if_false]
    refine Eq.trans (ih _ hrun hc ?_) ?_
    · simp [hz]
    · simp [List.append_assoc]

/-- looking a task up among the workers selected by a property of their task: the lookup among all workers
    if the task has the property, nothing otherwise (`g'` may differ from `g` off the selection) -/
theorem find_filter_tid (a : Tid → Bool) (g g' : Job → Tid × Outcome) (hg : ∀ j, (g j).1 = j.tid)
    (hg' : ∀ j, (g' j).1 = j.tid) (hgg : ∀ j, a j.tid = true → g' j = g j) (t : Tid) : ∀ (fin : List Job),
    ((fin.filter (fun j => a j.tid)).map g').find? (fun x => x.1 = t) =
      if a t then (fin.map g).find? (fun x => x.1 = t) else none
  | [] => by simp
  | j :: fin => by
    have ih := find_filter_tid a g g' hg hg' hgg t fin
    by_cases hj : j.tid = t
    · subst hj
      cases ha : a j.tid
      · rw [List.filter_cons_of_neg (by simp [ha]), ih, ha]; rfl
      · simp [ha, hg, hgg j ha]
    · rw [List.map_cons, List.find?_cons_of_neg (by simpa [hg] using hj), ← ih]
      cases ha : a j.tid
      · rw [List.filter_cons_of_neg (by simp [ha])]
      · rw [List.filter_cons_of_pos (by simpa using ha), List.map_cons,
          List.find?_cons_of_neg (by simpa [hg'] using hj)]

theorem find_outcomes_split (f : Job → Outcome) (dies : Tid → Bool)
    (hf : ∀ j, dies j.tid = true → f j = .died) (fin : List Job) (t : Tid) :
    (((fin.filter (fun j => !dies j.tid)).map (fun j => (j.tid, f j))) ++
      ((fin.filter (fun j => dies j.tid)).map Job.tid).map (fun t => (t, Outcome.died))).find?
        (fun x => x.1 = t) =
    (fin.map (fun j => (j.tid, f j))).find? (fun x => x.1 = t) := by
  rw [List.find?_append, List.map_map,
    find_filter_tid (fun t => !dies t) (fun j => (j.tid, f j)) _ (fun _ => rfl) (fun _ => rfl) (fun _ _ => rfl),
    find_filter_tid dies (fun j => (j.tid, f j)) ((fun t => (t, Outcome.died)) ∘ Job.tid) (fun _ => rfl)
      (fun _ => rfl) (fun j hj => by simp [hf j hj])]
  cases dies t <;> simp

/-- the state in which `ProcessRunner.wait` starts yielding (coarse model) -/
def waitPre (cfg : Config) (p : Problem) (c : Choice) (rs : RS) : RS :=
  startProcesses cfg { rs with
    running := stayOf c rs.running, store := saveAll p rs.ts (finOf c rs.running) rs.store,
    trace := rs.trace ++ [Ev.waitEnter (rs.queued.map Job.tid) (rs.running.map Job.tid)]
               ++ ((finOf c rs.running).map (jobEvents p rs.ts)).flatten }

def waitOutcomes (p : Problem) (c : Choice) (rs : RS) : List (Tid × Outcome) :=
  (finOf c rs.running).map (fun j => (j.tid, jobOutcome p rs.ts rs.store j))

theorem waitPre_futs (c : Choice) (rs : RS) : (waitPre cfg p c rs).futs = rs.futs := by
  simp [waitPre, startProcesses]

theorem waitProcess_refine (req : List Tid) (c : Choice) (s : IS) (hrun : s.rs.status = .running)
    (hb : cfg.backend ≠ .serial) (hd : s.done = []) (hc : s.cancelled = []) (hz : s.zombies = [])
    (hnd : s.rs.futs.Nodup) (hsub : ∀ j ∈ s.rs.running, j.tid ∈ s.rs.futs)
    (hnk : (waitProcess cfg p req c s.rs).status ≠ .raised .keyError) :
    ∃ A d, runPrims cfg p (waitPrims cfg p req c s) s =
        { s with alive := A, done := d, rs := waitProcess cfg p req c s.rs } ∧
      ((waitProcess cfg p req c s.rs).status = .running → d = []) := by
  refine waitPrims_cases (motive := fun ps => ∃ A d, runPrims cfg p ps s =
      { s with alive := A, done := d, rs := waitProcess cfg p req c s.rs } ∧
      ((waitProcess cfg p req c s.rs).status = .running → d = [])) req c s
    (fun hb' => absurd hb' hb) (fun hb' => absurd hb' hb) ?_
  intro _ s0 s1 s2 hs0 hs1 hs2
  -- after the result queue was consumed
  have e0 : s0 = stepPrim cfg p (Prim.consumeResults c) s := by rw [hs0, applyPrim_running _ _ hrun]
  have r0 : s0.rs.status = .running := by rw [e0]; exact hrun
  have c0 : s0.cancelled = [] := by rw [e0]; exact hc
  have z0 : s0.zombies = ((finOf c s.rs.running).filter (fun j => p.dies j.tid)).map Job.tid := by
    rw [e0]; simp [stepPrim, hz]
  have d0 : s0.done = ((finOf c s.rs.running).filter (fun j => !p.dies j.tid)).map
      (fun j => (j.tid, jobOutcome p s.rs.ts s.rs.store j)) := by
    rw [e0]; simp [stepPrim, hd, hc]
  -- after the dead-process loop
  have e1 : s1 = { s0 with zombies := [], done := s0.done ++ s0.zombies.map (fun t => (t, Outcome.died)) } := by
    rw [hs1, deadPrims, markDead_fold _ s0 r0 c0 rfl]
  have r1 : s1.rs.status = .running := by rw [e1]; exact r0
  have z1 : s1.zombies = [] := by rw [e1]
  -- after `_start_processes`
  have e2 := startProcessesPrims_refine (cfg := cfg) (p := p) s1 r1 z1
  rw [← hs2] at e2
  have rs2 : s2.rs = waitPre cfg p c s.rs := by
    rw [e2]
    show startProcesses cfg s1.rs = _
    rw [e1]
    show startProcesses cfg s0.rs = _
    rw [e0]
    rfl
  have c2 : s2.cancelled = [] := by rw [e2]; show s1.cancelled = []; rw [e1]; exact c0
  have d2 : s2.done = s0.done ++ s0.zombies.map (fun t => (t, Outcome.died)) := by
    rw [e2]; show s1.done = _; rw [e1]
  have hys : s2.rs.futs.filterMap (fun t => s2.done.find? (fun x => x.1 = t)) =
      (waitPre cfg p c s.rs).futs.filterMap (fun t => (waitOutcomes p c s.rs).find? (fun x => x.1 = t)) := by
    rw [rs2]
    apply filterMap_congr'
    intro t _
    rw [d2, d0, z0]
    exact find_outcomes_split (fun j => jobOutcome p s.rs.ts s.rs.store j) p.dies
      (fun j hj => by simp [jobOutcome, hj]) (finOf c s.rs.running) t
  have hwp : waitProcess cfg p req c s.rs = processYields cfg req ((waitPre cfg p c s.rs).futs.filterMap
      (fun t => (waitOutcomes p c s.rs).find? (fun x => x.1 = t))) (waitPre cfg p c s.rs) := rfl
  have f2 : s2.rs.futs = s.rs.futs := by rw [rs2, waitPre_futs]
  obtain ⟨d, hdone, hdd⟩ := donePrims_refine req s2.rs.futs s2 c2
    (by rw [f2]; exact hnd) (fun t ht => ht) (by rw [hys, rs2, ← hwp]; exact hnk)
  rw [hys, rs2, ← hwp] at hdone hdd
  refine ⟨s2.alive, d, ?_, ?_⟩
  · rw [runPrims_append, runPrims_append, runPrims_cons, ← hs0, ← hs1, ← hs2, rs2, hdone]
    have a1 : s2.cancelled = s.cancelled := by rw [c2, hc]
    have a2 : s2.terminated = s.terminated := by rw [e2]; show s1.terminated = _; rw [e1]; show s0.terminated = _; rw [e0]; rfl
    have a3 : s2.zombies = s.zombies := by rw [e2]; show s1.zombies = _; rw [z1, hz]
    have a4 : s2.cur = s.cur := by rw [e2]; show s1.cur = _; rw [e1]; show s0.cur = _; rw [e0]; rfl
    have a5 : s2.curOut = s.curOut := by rw [e2]; show s1.curOut = _; rw [e1]; show s0.curOut = _; rw [e0]; rfl
    rw [a1, a2, a3, a4, a5]
  · intro hr
    rw [hdd hr, List.filter_eq_nil_iff]
    intro x hx
    simp only [decide_not, Bool.not_eq_true', decide_eq_false_iff_not, Decidable.not_not]
    rw [waitPre_futs]
    rw [d2, d0, z0] at hx
    simp only [List.mem_append, List.mem_map, List.mem_filter] at hx
    rcases hx with ⟨j, ⟨hj, _⟩, rfl⟩ | ⟨t, ⟨j, ⟨hj, _⟩, rfl⟩, rfl⟩
    · exact hsub j ((finOf_sublist c _).subset hj)
    · exact hsub j ((finOf_sublist c _).subset hj)

/-- `save` begun and completed = the coarse model's save -/
theorem saveIfRan_begin (st : Store) (j : Job) (o : Outcome) :
    saveIfRan p (saveBegin p st j o) j o = saveIfRan p st j o := by
  cases o with
  | ok v =>
    simp only [saveIfRan, saveBegin]
    split
    · simp [List.filter_filter]
    · rfl
  | exc => rfl
  | died => rfl

theorem waitSerial_refine (req : List Tid) (c : Choice) (s : IS) (hrun : s.rs.status = .running)
    (hb : cfg.backend = .serial) (hmem : ∀ j ∈ s.rs.queued.head?, j.tid ∈ s.rs.futs)
    (hnk : (waitSerial cfg p req s.rs).status ≠ .raised .keyError) :
    ∃ cu co d, runPrims cfg p (waitPrims cfg p req c s) s =
        { s with cur := cu, curOut := co, done := d, rs := waitSerial cfg p req s.rs } ∧
      (s.done = [] → d = []) := by
  cases hq : s.rs.queued with
  | nil =>
    refine ⟨s.cur, s.curOut, s.done, ?_, id⟩
    simp only [waitPrims, hb, if_true, hq, runPrims_cons, runPrims_nil, applyPrim_running _ _ hrun,
      stepPrim, waitSerial]
  | cons j rest =>
    have htf : j.tid ∈ s.rs.futs := hmem j (by simp [hq])
    simp only [waitPrims, hb, if_true, hq, runPrims_append, runPrims_cons, runPrims_nil]
    simp only [applyPrim_running, hrun, stepPrim, hq, saveIfRan_begin]
    simp only [waitSerial, hq] at hnk
    have hc : completeTask s.rs.ts j.tid ≠ none := by
      intro hcn
      apply hnk
      generalize runOutcome p s.rs.ts s.rs.store { j with snap := some s.rs.results } = o
      cases o <;> simp [processYield, hcn]
    have := doneOne_refine (cfg := cfg) (p := p) req
      { s with cur := some { j with snap := some s.rs.results },
               curOut := some (runOutcome p s.rs.ts s.rs.store { j with snap := some s.rs.results }),
               rs := { s.rs with queued := rest,
                                 store := saveIfRan p s.rs.store { j with snap := some s.rs.results }
                                   (runOutcome p s.rs.ts s.rs.store { j with snap := some s.rs.results }),
                                 trace := s.rs.trace ++ [Ev.waitEnter (s.rs.queued.map Job.tid) []]
                                   ++ [Ev.start j.tid] ++ runEvents p s.rs.ts { j with snap := some s.rs.results } } }
      j.tid (runOutcome p s.rs.ts s.rs.store { j with snap := some s.rs.results }) hrun htf hc
    simp only [runPrims_cons] at this
    simp only [applyPrim_running, hrun, stepPrim, hq, htf, if_true] at this
    refine ⟨some { j with snap := some s.rs.results },
      some (runOutcome p s.rs.ts s.rs.store { j with snap := some s.rs.results }),
      s.done.filter (fun x => x.1 ≠ j.tid), ?_, fun h => by simp [h]⟩
    simp only [waitSerial, hq, htf, if_true, hrun]
    exact this

/-- well-formedness of a loop-head state of the fine model: the master invariant of the coarse
    model on `s.rs`, and no left-overs in the executor's ghost fields -/
structure LHead (cfg : Config) (p : Problem) (P : TS) (s : IS) : Prop where
  reach : Reach cfg p P s.rs
  done : s.rs.status = .running → s.done = []
  canc : s.cancelled = []
  zomb : s.zombies = []

theorem iteration_refine_lhead {P : TS} (hP : PI P) (req : List Tid) (c : Choice) (s : IS)
    (h : LHead cfg p P s) (hrun : s.rs.status = .running) :
    (runPrims cfg p (iterationPrims cfg p req c s) s).rs = iteration cfg p req c s.rs ∧
    LHead cfg p P (runPrims cfg p (iterationPrims cfg p req c s) s) := by
  obtain ⟨A, hA⟩ := submitPrims_refine (readyTasks p s.rs.ts) s hrun h.zomb
  obtain ⟨hc, he, hst⟩ := submitPhase_reach hP h.reach hrun
  obtain ⟨s1, hs1⟩ : ∃ s1, s1 = runPrims cfg p (submitPrims cfg p (readyTasks p s.rs.ts) s) s := ⟨_, rfl⟩
  rw [← hs1] at hA
  have rs1 : s1.rs = submitAll cfg p (readyTasks p s.rs.ts) s.rs := by rw [hA]
  have r1 : s1.rs.status = .running := by rw [rs1]; exact hst
  have hip : iterationPrims cfg p req c s =
      submitPrims cfg p (readyTasks p s.rs.ts) s ++ waitPrims cfg p req c s1 := by
    simp only [iterationPrims, ← hs1, r1]
  have hit : iteration cfg p req c s.rs =
      if cfg.backend = .serial then waitSerial cfg p req s1.rs else waitProcess cfg p req c s1.rs := by
    simp only [iteration, ← rs1, r1]
  rw [hip, runPrims_append, ← hs1, hit]
  have hmemq : ∀ j ∈ s1.rs.queued ++ s1.rs.running, j.tid ∈ s1.rs.futs := by
    intro j hj
    rw [rs1]
    rw [rs1] at hj
    have := he.perm
    simp only [List.append_nil] at this
    exact this.mem_iff.mp (List.mem_map.mpr ⟨j, hj, rfl⟩)
  have hd1 : s1.done = [] := by rw [hA]; exact h.done hrun
  have hc1 : s1.cancelled = [] := by rw [hA]; exact h.canc
  have hz1 : s1.zombies = [] := by rw [hA]; exact h.zomb
  by_cases hb : cfg.backend = .serial
  · simp only [hb, if_true]
    have hreach : Reach cfg p P (waitSerial cfg p req s1.rs) := by
      rw [rs1]; exact waitSerial_inv req hP hc he hst
    obtain ⟨cu, co, d, hw, hd⟩ := waitSerial_refine req c s1 r1 hb
      (by
        intro j hj
        apply hmemq j
        apply List.mem_append_left
        cases hq : s1.rs.queued with
        | nil => simp [hq] at hj
        | cons a l => simp [hq] at hj; subst hj; exact List.mem_cons_self)
      hreach.1.noKey
    rw [hw]
    exact ⟨rfl, hreach, fun _ => hd hd1, hc1, hz1⟩
  · simp only [hb, if_false]
    have hreach : Reach cfg p P (waitProcess cfg p req c s1.rs) := by
      rw [rs1]; exact waitProcess_inv req c hP hb hc he
    obtain ⟨A2, d, hw, hd⟩ := waitProcess_refine req c s1 r1 hb hd1 hc1 hz1
      (by rw [rs1]; exact hc.ndF)
      (fun j hj => hmemq j (List.mem_append_right _ hj)) hreach.1.noKey
    rw [hw]
    exact ⟨rfl, hreach, hd, hc1, hz1⟩

/-- THE REFINEMENT THEOREM: executing, in program order, all primitives of one main-loop iteration
    is the iteration of the validated coarse model (`Lt.iteration`), from every state that
    satisfies the master invariant (`Reach`, proved for every loop head by `reach_all`) and whose
    executor ghost fields are clean (`LHead`, itself preserved) -/
theorem prims_refine_iteration {P : TS} (hP : PI P) (req : List Tid) (c : Choice) (s : IS)
    (h : LHead cfg p P s) (hrun : s.rs.status = .running) :
    ((iterationPrims cfg p req c s).foldl (fun s q => applyPrim cfg p q s) s).rs
      = iteration cfg p req c s.rs :=
  (iteration_refine_lhead hP req c s h hrun).1

/-- whole runs: the main stream, executed completely, is `runLoop`; and its end state is again
    a well-formed loop head -/
theorem mainStream_refine {P : TS} (hP : PI P) (req : List Tid) : ∀ (sched : List Choice) (s : IS),
    LHead cfg p P s →
    (runPrims cfg p (mainStream cfg p req sched s) s).rs = runLoop cfg p req sched s.rs ∧
    LHead cfg p P (runPrims cfg p (mainStream cfg p req sched s) s) := by
  intro sched
  induction sched with
  | nil => intro s h; exact ⟨rfl, h⟩
  | cons c cs ih =>
    intro s h
    by_cases hrun : s.rs.status = .running
    · by_cases hl : loopCond s.rs = true
      · obtain ⟨h1, h2⟩ := iteration_refine_lhead hP req c s h hrun
        have := ih _ h2
        simp only [mainStream, hrun, hl, if_true, runPrims_append, runLoop]
        rw [← h1]
        exact this
      · simp only [mainStream, hrun, hl, runLoop]
        exact ⟨rfl, h⟩
    · have h1 : mainStream cfg p req (c :: cs) s = [] := by
        unfold mainStream
        cases hs : s.rs.status <;> simp_all
      have h2 : runLoop cfg p req (c :: cs) s.rs = s.rs := by
        unfold runLoop
        cases hs : s.rs.status <;> simp_all
      rw [h1, h2]
      exact ⟨rfl, h⟩

/-- a run of M10 that is not interrupted is the run of the coarse model (`runLoop`), from the initial state -/
theorem run_refine (store : Store) (fuel : Nat) (sched : List Choice) :
    (runPrims cfg p (mainStream cfg p (reqTids p) sched (initIS cfg p store fuel))
      (initIS cfg p store fuel)).rs = runLoop cfg p (reqTids p) sched (initRS cfg p store fuel) :=
  (mainStream_refine (plan_PI cfg p store fuel) (reqTids p) sched _ ⟨initRS_reach cfg p store fuel, fun _ => rfl, rfl, rfl⟩).1
