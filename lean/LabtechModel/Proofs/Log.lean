import LabtechModel.Model.Log
/-!
Helper lemmas for C19: the conservation invariant of the proxy, of a worker's three channels, and of the
parent's queues ("every record is in exactly one of: not yet put / on the log queue / delivered").
-/
namespace Lt.Log

deriving instance DecidableEq for Rec
deriving instance DecidableEq for Exit

def writes : List POp → List String
  | [] => []
  | .write s :: ops => s :: writes ops
  | .flush :: ops => writes ops

theorem writes_append (a b : List POp) : writes (a ++ b) = writes a ++ writes b := by
  induction a with
  | nil => rfl
  | cons op ops ih => cases op <;> simp [writes, ih]

/-- the fragments that `write` keeps -/
def nonBlank (l : List String) : List String := l.filter (fun s => !blank s)

theorem nonBlank_append (a b : List String) : nonBlank (a ++ b) = nonBlank a ++ nonBlank b := by
  simp [nonBlank]

theorem pwrite_eq (b : List String) (s : String) : pwrite b s = b ++ nonBlank [s] := by
  simp only [pwrite, nonBlank, List.filter]
  cases blank s <;> simp

theorem pflush_conserve (b : List String) : (pflush b).2.flatten ++ (pflush b).1 = b := by
  cases b <;> simp [pflush]

theorem pflush_bufs (b : List String) : (pflush b).1 = [] := by
  cases b <;> rfl

theorem pflush_nonempty (b : List String) : ∀ m ∈ (pflush b).2, m ≠ [] := by
  cases b <;> simp [pflush]

/-- nothing is lost, duplicated or reordered at any point of any operation sequence -/
theorem prun_conserve : ∀ (ops : List POp) (b : List String),
    (prun b ops).2.flatten ++ (prun b ops).1 = b ++ nonBlank (writes ops) := by
  intro ops
  induction ops with
  | nil => intro b; simp [prun, writes, nonBlank]
  | cons op ops ih =>
    intro b
    cases op with
    | write s =>
      simp only [prun, writes]
      rw [ih, pwrite_eq, List.append_assoc, ← nonBlank_append]
      rfl
    | flush =>
      simp only [prun, writes, List.flatten_append, List.append_assoc]
      rw [ih, ← List.append_assoc, pflush_conserve]

theorem prun_append : ∀ (o1 o2 : List POp) (b : List String),
    prun b (o1 ++ o2) = ((prun (prun b o1).1 o2).1, (prun b o1).2 ++ (prun (prun b o1).1 o2).2) := by
  intro o1
  induction o1 with
  | nil => intro o2 b; simp [prun]
  | cons op ops ih =>
    intro o2 b
    cases op with
    | write s => simp only [List.cons_append, prun, ih]
    | flush => simp only [List.cons_append, prun, ih, List.append_assoc]

theorem prun_nonempty : ∀ (ops : List POp) (b : List String), ∀ m ∈ (prun b ops).2, m ≠ [] := by
  intro ops
  induction ops with
  | nil => intro b m hm; simp [prun] at hm
  | cons op ops ih =>
    intro b m hm
    cases op with
    | write s => exact ih _ m (by simpa [prun] using hm)
    | flush =>
      simp only [prun, List.mem_append] at hm
      rcases hm with hm | hm
      · exact pflush_nonempty b m hm
      · exact ih _ m hm

def logsOf : List Rec → List String
  | [] => []
  | .logged m :: rs => m :: logsOf rs
  | _ :: rs => logsOf rs

def outBufs : List Rec → List String
  | [] => []
  | .stdout b :: rs => b ++ outBufs rs
  | _ :: rs => outBufs rs

def errBufs : List Rec → List String
  | [] => []
  | .stderr b :: rs => b ++ errBufs rs
  | _ :: rs => errBufs rs

def emLogs : List Emit → List String
  | [] => []
  | .log m :: es => m :: emLogs es
  | _ :: es => emLogs es

def emOuts : List Emit → List String
  | [] => []
  | .out s :: es => s :: emOuts es
  | _ :: es => emOuts es

def emErrs : List Emit → List String
  | [] => []
  | .err s :: es => s :: emErrs es
  | _ :: es => emErrs es

theorem logsOf_append (a b : List Rec) : logsOf (a ++ b) = logsOf a ++ logsOf b := by
  induction a with
  | nil => rfl
  | cons r rs ih => cases r <;> simp [logsOf, ih]

theorem outBufs_append (a b : List Rec) : outBufs (a ++ b) = outBufs a ++ outBufs b := by
  induction a with
  | nil => rfl
  | cons r rs ih => cases r <;> simp [outBufs, ih]

theorem errBufs_append (a b : List Rec) : errBufs (a ++ b) = errBufs a ++ errBufs b := by
  induction a with
  | nil => rfl
  | cons r rs ih => cases r <;> simp [errBufs, ih]

theorem emLogs_append (a b : List Emit) : emLogs (a ++ b) = emLogs a ++ emLogs b := by
  induction a with
  | nil => rfl
  | cons e es ih => cases e <;> simp [emLogs, ih]

theorem emOuts_append (a b : List Emit) : emOuts (a ++ b) = emOuts a ++ emOuts b := by
  induction a with
  | nil => rfl
  | cons e es ih => cases e <;> simp [emOuts, ih]

theorem emErrs_append (a b : List Emit) : emErrs (a ++ b) = emErrs a ++ emErrs b := by
  induction a with
  | nil => rfl
  | cons e es ih => cases e <;> simp [emErrs, ih]

/-- the conservation law of a worker between two states of its proxies, `recs` put on the queue for the
    emissions `ems`: the logger records are the logger calls, and per captured stream
    handed over ++ still buffered = was buffered ++ the kept writes -/
structure Conserved (st st' : WState) (recs : List Rec) (ems : List Emit) : Prop where
  logs : logsOf recs = emLogs ems
  out : outBufs recs ++ st'.out = st.out ++ nonBlank (emOuts ems)
  err : errBufs recs ++ st'.err = st.err ++ nonBlank (emErrs ems)

theorem Conserved.trans {a b c : WState} {r r' : List Rec} {e e' : List Emit} (h : Conserved a b r e)
    (h' : Conserved b c r' e') : Conserved a c (r ++ r') (e ++ e') where
  logs := by rw [logsOf_append, emLogs_append, h.logs, h'.logs]
  out := by
    rw [outBufs_append, emOuts_append, nonBlank_append, List.append_assoc, h'.out, ← List.append_assoc, h.out,
      List.append_assoc]
  err := by
    rw [errBufs_append, emErrs_append, nonBlank_append, List.append_assoc, h'.err, ← List.append_assoc, h.err,
      List.append_assoc]

section
attribute [local simp] emitStep outBufs errBufs emOuts emErrs nonBlank

theorem emitStep_conserve (st : WState) (e : Emit) :
    Conserved st (emitStep st e).1 (emitStep st e).2 [e] := by
  obtain ⟨o, r⟩ := st
  cases e with
  | log m => exact ⟨rfl, by simp, by simp⟩
  | out s => exact ⟨rfl, by simp [pwrite_eq], by simp⟩
  | err s => exact ⟨rfl, by simp, by simp [pwrite_eq]⟩
  | flushOut => cases o <;> exact ⟨rfl, by simp [pflush], by simp [pflush]⟩
  | flushErr => cases r <;> exact ⟨rfl, by simp [pflush], by simp [pflush]⟩

end

theorem emitAll_conserve : ∀ (ems : List Emit) (st : WState),
    Conserved st (emitAll st ems).1 (emitAll st ems).2 ems := by
  intro ems
  induction ems with
  | nil => intro st; exact ⟨rfl, by simp [emitAll, outBufs, emOuts, nonBlank], by simp [emitAll, errBufs, emErrs, nonBlank]⟩
  | cons e es ih => intro st; exact (emitStep_conserve st e).trans (ih _)

theorem emitAll_append : ∀ (a b : List Emit) (st : WState),
    emitAll st (a ++ b) = ((emitAll (emitAll st a).1 b).1, (emitAll st a).2 ++ (emitAll (emitAll st a).1 b).2) := by
  intro a
  induction a with
  | nil => intro b st; simp [emitAll]
  | cons e es ih => intro b st; simp only [List.cons_append, emitAll, ih, List.append_assoc]

/-- after the `finally` of `_subprocess_func` both proxies are empty -/
theorem final_flush_empties (st : WState) :
    (emitAll st [.flushOut, .flushErr]).1 = { out := [], err := [] } := by
  simp [emitAll, emitStep, pflush_bufs]

theorem drainLoop_eq : ∀ (q d : List (Nat × Rec)), drainLoop q d = d ++ q := by
  intro q
  induction q with
  | nil => intro d; simp [drainLoop]
  | cons r q ih => intro d; simp [drainLoop, ih]

theorem proj_append (w : Nat) (a b : List (Nat × Rec)) : proj w (a ++ b) = proj w a ++ proj w b := by
  simp [proj]

theorem proj_nil (w : Nat) : proj w [] = [] := rfl

theorem proj_tag (w w' : Nat) (l : List Rec) : proj w (tag w' l) = if w = w' then l else [] := by
  by_cases h : w = w'
  · simp [proj, tag, List.filter_map, Function.comp_def, h]
  · have h' : ¬ w' = w := fun e => h e.symm
    simp [proj, tag, List.filter_map, Function.comp_def, h, h']

/-- conservation + bookkeeping invariant of the parent's state, relative to the workers' record lists -/
structure Inv (n : Nat) (recs : Nat → List Rec) (s : St) : Prop where
  hn : s.n = n
  split : ∀ w, proj w s.delivered ++ proj w s.logq ++ s.todo w = recs w
  fin : ∀ w, s.finished w = true → s.todo w = []
  res : ∀ w, w ∈ s.resq → s.finished w = true
  con : ∀ w, w ∈ s.consumed → s.finished w = true

theorem inv_init (n : Nat) (recs : Nat → List Rec) : Inv n recs (init n recs) := by
  refine ⟨rfl, ?_, ?_, ?_, ?_⟩ <;> simp [init, proj]

section
variable {n : Nat} {recs : Nat → List Rec} {s : St}

/-- worker `w` puts the part `a` of its remaining records `a ++ b` -/
theorem split_put (w : Nat) (a b : List Rec) (hab : a ++ b = s.todo w) {w' : Nat}
    (h : proj w' s.delivered ++ proj w' s.logq ++ s.todo w' = recs w') :
    proj w' s.delivered ++ proj w' (s.logq ++ tag w a) ++ upd s.todo w b w' = recs w' := by
  rw [proj_append, proj_tag, upd]
  by_cases hw : w' = w
  · subst hw; rw [if_pos rfl, if_pos rfl, ← h, ← hab]; simp only [List.append_assoc]
  · rw [if_neg hw, if_neg hw, List.append_nil]; exact h

theorem upd_true {f : Nat → Bool} {w' : Nat} (w : Nat) (h : f w' = true) : upd f w true w' = true := by
  unfold upd; split <;> simp [h]

theorem Inv.step (h : Inv n recs s) (e : Env) : Inv n recs (envStep s e) := by
  cases e with
  | advance w k =>
    simp only [envStep]
    split
    · next hc =>
      refine ⟨h.hn, fun w' => split_put (s := s) w _ _ (List.take_append_drop k _) (h.split w'), ?_, h.res, h.con⟩
      intro w' hf
      simp only [upd]
      split
      · next hw => rw [hw, hc.2] at hf; cases hf
      · exact h.fin w' hf
    · exact h
  | finish w =>
    simp only [envStep]
    split
    · refine ⟨h.hn, fun w' => split_put (s := s) w _ _ (List.append_nil _) (h.split w'), ?_, ?_,
        fun w' hm => upd_true w (h.con w' hm)⟩
      · intro w' hf
        simp only [upd] at hf ⊢
        split
        · rfl
        · next hw => rw [if_neg hw] at hf; exact h.fin w' hf
      · intro w' hm
        rcases List.mem_append.mp hm with hm | hm
        · exact upd_true w (h.res w' hm)
        · simp [upd, List.mem_singleton.mp hm]
    · exact h

theorem Inv.steps (h : Inv n recs s) (es : List Env) : Inv n recs (es.foldl envStep s) := by
  induction es generalizing s with
  | nil => exact h
  | cons e es ih => exact ih (h.step e)

theorem Inv.drain (h : Inv n recs s) : Inv n recs (consumeLog s) := by
  refine ⟨h.hn, fun w => ?_, h.fin, h.res, h.con⟩
  simp only [consumeLog, drainLoop_eq, proj_append, proj_nil, List.append_nil]
  exact h.split w

theorem Inv.results (h : Inv n recs s) : Inv n recs (consumeResults s) :=
  ⟨h.hn, h.split, h.fin, nofun, fun w hm => (List.mem_append.mp hm).elim (h.con w) (h.res w)⟩

theorem Inv.round (h : Inv n recs s) (r : Round) : Inv n recs (waitRound s r) :=
  (((h.steps r.a).drain.steps r.b).results.steps r.c).drain

/-- the log queue is empty when `wait` hands its results to the coordinator -/
theorem waitRound_logq (s : St) (r : Round) : (waitRound s r).logq = [] := rfl

/-- with `continue_on_failure=True` the loop never raises: it is the plain loop -/
theorem runLoop_cof (fails : Nat → Bool) : ∀ (sched : List Round) (s : St),
    (runLoop true fails s sched).1 = loop s sched := by
  intro sched
  induction sched with
  | nil => intro s; rfl
  | cons r rs ih =>
    intro s
    simp only [runLoop, loop]
    split
    · rfl
    · exact ih _

/-- what every `wait` keeps holds wherever the coordinator loop stops -/
theorem runLoop_keeps {P : St → Prop} (hP : ∀ s r, P s → P (waitRound s r)) (cof : Bool) (fails : Nat → Bool)
    (sched : List Round) (h : P s) : P (runLoop cof fails s sched).1 := by
  induction sched generalizing s with
  | nil => exact h
  | cons r rs ih =>
    simp only [runLoop]
    split
    · exact h
    · split
      · exact hP s r h
      · exact ih (hP s r h)

theorem Inv.runLoop (h : Inv n recs s) (hq : s.logq = []) (cof : Bool) (fails : Nat → Bool)
    (sched : List Round) :
    Inv n recs (runLoop cof fails s sched).1 ∧ (runLoop cof fails s sched).1.logq = [] :=
  runLoop_keeps (P := fun s => Inv n recs s ∧ s.logq = []) (fun s r h => ⟨h.1.round r, waitRound_logq s r⟩)
    cof fails sched ⟨h, hq⟩

theorem Inv.loop (h : Inv n recs s) (hq : s.logq = []) (sched : List Round) :
    Inv n recs (loop s sched) ∧ (loop s sched).logq = [] := by
  rw [← runLoop_cof (fun _ => false)]; exact h.runLoop hq true _ sched

/-- a worker whose result was taken, seen while the log queue is empty: all its records are delivered -/
theorem Inv.delivered (h : Inv n recs s) (hq : s.logq = [])
    (w : Nat) (hw : w ∈ s.consumed) : proj w s.delivered = recs w := by
  have := h.split w
  rwa [hq, h.fin w (h.con w hw), proj_nil, List.append_nil, List.append_nil] at this

end

/-- how the loop ended: a return means every result was taken; a raise is for a worker that failed and whose
    outcome this `wait` had taken -/
theorem runLoop_exit (cof : Bool) (fails : Nat → Bool) : ∀ (sched : List Round) (s : St),
    ((runLoop cof fails s sched).2 = .returned → allConsumed (runLoop cof fails s sched).1 = true) ∧
    ∀ f, (runLoop cof fails s sched).2 = .raised f →
      cof = false ∧ fails f = true ∧ f ∈ (runLoop cof fails s sched).1.consumed := by
  intro sched
  induction sched with
  | nil =>
    intro s
    by_cases hc : allConsumed s = true <;> simp [runLoop, hc]
  | cons r rs ih =>
    intro s
    by_cases hc : allConsumed s = true
    · simp [runLoop, hc]
    · cases hf : (if cof then none else (yieldOrder s.n s.consumed (waitRound s r).consumed).find? fails) with
      | none => simp only [runLoop, hc, hf]; exact ih _
      | some w =>
        simp only [runLoop, hc, hf, if_false, reduceCtorEq, false_imp_iff, Exit.raised.injEq, true_and]
        rintro f rfl
        cases cof with
        | true => cases hf
        | false =>
          have h2 := List.mem_of_find?_eq_some hf
          simp only [yieldOrder, List.mem_filter, Bool.and_eq_true, List.contains_iff_mem] at h2
          exact ⟨rfl, List.find?_some hf, h2.2.1⟩

theorem mem_consumed_of_all (s : St) (h : allConsumed s = true) (w : Nat) (hw : w < s.n) : w ∈ s.consumed := by
  simp only [allConsumed, List.all_eq_true, List.mem_range, List.contains_iff_mem] at h
  exact h w hw

theorem count_proj (w : Nat) (r : Rec) (l : List (Nat × Rec)) : (proj w l).count r = l.count (w, r) := by
  simp only [proj, List.count_eq_countP, List.countP_map, List.countP_filter]
  refine List.countP_congr fun x _ => ?_
  obtain ⟨w', r'⟩ := x
  simp [and_comm]

end Lt.Log
