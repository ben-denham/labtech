import LabtechModel.Proofs.LinkExampleKeys
import LabtechModel.Proofs.DumpsInj
/-!
# `DumpsInjOn` discharged: `json.dumps` separates the documents that occur

`Lt.Link.DumpsInjOn n task` is one of the two named assumptions of `keyInj_of_params` (C06 / C08).
`Lt.Params.dumps_injective` (`Proofs/DumpsInj.lean`) proves it for every family of tasks whose float
parameters carry float tokens (`WfFloatsOn`, the decidable `Task.wfFloats` for every task of the
family): `dumpsInjOn_of_wf`, `dumpsInjOn_of_wfFloats`.  `keyInj_of_params_dumps_proved` is
`keyInj_of_params` with that assumption discharged; SHA-1 collision-freeness (`ShaInjOn`) is the one
named assumption that remains.
-/
namespace Lt.Link
open Lt.Params (Task cacheKeyPre serTask dumps wfTask)

/-- every task of the family has well-formed float tokens at every depth (decidable per task) -/
def WfFloatsOn (n : Nat) (task : Nat → Task) : Prop := ∀ t, t < n → (task t).wfFloats = true

/-- `DumpsInjOn` is a theorem for documents with well-formed float tokens -/
theorem dumpsInjOn_of_wf (n : Nat) (task : Nat → Task)
    (h : ∀ t, t < n → (serTask (task t)).wfTokens = true) : DumpsInjOn n task :=
  fun t t' ht ht' he => Lt.Params.dumps_injective _ _ (h t ht) (h t' ht') he

theorem dumpsInjOn_of_wfFloats (n : Nat) (task : Nat → Task) (h : WfFloatsOn n task) : DumpsInjOn n task :=
  dumpsInjOn_of_wf n task (fun t ht => Lt.Params.serTask_wfTokens _ (h t ht))

/-- **C07 ⇒ `KeyInj`**, with `json.dumps` injectivity proved instead of assumed -/
theorem keyInj_of_params_dumps_proved (U : Store.Universe) (sha1 : String → String) (task : Nat → Task)
    (hrep : Represents U sha1 task) (hwf : WfTasks U.n task) (hdist : Distinct U.n task)
    (hsha : ShaInjOn sha1 U.n task) (hfl : WfFloatsOn U.n task) : Store.KeyInj U :=
  keyInj_of_params U sha1 task hrep hwf hdist hsha (dumpsInjOn_of_wfFloats U.n task hfl)

theorem exTask_wfFloats : WfFloatsOn exPU.n exTask := by
  have key : ∀ t : Fin 3, (exTask t.val).wfFloats = true := by decide +kernel
  intro t ht
  exact key ⟨t, ht⟩

/-- `KeyInj` of the example universe without any `json.dumps` assumption -/
theorem exPU_keyInj_dumps_proved : Store.KeyInj exPU :=
  keyInj_of_params_dumps_proved exPU exSha exTask exPU_represents exTask_wf exTask_distinct exSha_injOn
    exTask_wfFloats

end Lt.Link
