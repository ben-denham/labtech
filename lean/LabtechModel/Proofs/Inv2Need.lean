import LabtechModel.Proofs.Inv2Flag
/-!
# C03: the plan is exactly the closure of the requested objects through NOT-cached tasks;
# loaded iff cached beforehand
-/
namespace Lt
variable (cfg : Config) (p : Problem) (store : Store) (fuel : Nat) (sched : List Choice) (obj : Tid → Iid)

/-- the objects planning has to look at: the requested ones, and every object found in the
    parameters of a needed object whose task is not served from cache. The parameters of an object
    whose task was cached beforehand (and not busted) are never looked at. -/
inductive NeededObj (cfg : Config) (p : Problem) (store : Store) : Iid → Prop
  | req {i : Iid} : i ∈ p.requested → NeededObj cfg p store i
  | dep {i c : Iid} : NeededObj cfg p store i → useCache cfg p store (p.tidOf i) = false →
      c ∈ p.children i → NeededObj cfg p store c

theorem processLevel_needed :
    ∀ (l : List Iid) (s : TS) (acc : List Iid),
      (∀ i ∈ s.processed, NeededObj cfg p store i) → (∀ i ∈ l, NeededObj cfg p store i) →
      (∀ i ∈ acc, NeededObj cfg p store i) →
      (∀ i ∈ (processLevel p (useCache cfg p store) l s acc).1.processed, NeededObj cfg p store i) ∧
      (∀ i ∈ (processLevel p (useCache cfg p store) l s acc).2, NeededObj cfg p store i) := by
  intro l s acc h1 h2 h3
  have := processLevel_ind p (useCache cfg p store)
    (fun l s acc => (∀ i ∈ s.processed, NeededObj cfg p store i) ∧ (∀ i ∈ l, NeededObj cfg p store i) ∧
      (∀ i ∈ acc, NeededObj cfg p store i))
    (by
      rintro i is s acc _ ⟨a, b, c⟩
      exact ⟨a, fun j hj => b j (List.mem_cons_of_mem _ hj), c⟩)
    (by
      rintro i is s s1 acc _ hs ⟨a, b, c⟩
      have hi := b i List.mem_cons_self
      refine ⟨?_, fun j hj => b j (List.mem_cons_of_mem _ hj), ?_⟩
      · intro j hj
        rw [hs.proc] at hj
        rcases List.mem_append.mp hj with h | h
        · exact a j h
        · simp only [List.mem_singleton] at h; subst h; exact hi
      · intro j hj
        rcases List.mem_append.mp hj with h | h
        · exact c j h
        · simp only [depInstsOf] at h
          split at h
          · simp at h
          · next hu => exact NeededObj.dep hi (by simpa using hu) h)
    l s acc ⟨h1, h2, h3⟩
  exact ⟨this.1, this.2.2⟩

theorem processTasks_needed :
    ∀ (fuel : Nat) (l : List Iid) (s : TS),
      (∀ i ∈ s.processed, NeededObj cfg p store i) → (∀ i ∈ l, NeededObj cfg p store i) →
      ∀ i ∈ (processTasks p (useCache cfg p store) fuel l s).processed, NeededObj cfg p store i := by
  intro fuel
  induction fuel with
  | zero => intro l s h _; simpa [processTasks] using h
  | succ n ih =>
    intro l s h1 h2
    simp only [processTasks]
    have := processLevel_needed cfg p store l s [] h1 h2 (by simp)
    split
    · exact this.1
    · exact ih _ _ this.1 this.2

theorem plan_processed_needed :
    ∀ i ∈ (plan cfg p store fuel).processed, NeededObj cfg p store i :=
  processTasks_needed cfg p store fuel p.requested {} (by simp) (fun _ hi => NeededObj.req hi)

/-- soundness of planning (no hypothesis): every planned task is the task of a needed object -/
theorem plan_pending_needed (t : Tid)
    (h : t ∈ (plan cfg p store fuel).pending) : ∃ i, NeededObj cfg p store i ∧ p.tidOf i = t := by
  have hJ := plan_PJ cfg p store fuel
  have hne := hJ.pendInst t h
  cases hl : (plan cfg p store fuel).instances t with
  | nil => exact absurd hl hne
  | cons i rest =>
    have hi : i ∈ (plan cfg p store fuel).instances t := by rw [hl]; simp
    obtain ⟨h1, h2⟩ := hJ.instTid t i hi
    exact ⟨i, plan_processed_needed cfg p store fuel i h2, h1⟩

/-- completeness of planning (`Acyclic`, `InstOK`, enough fuel): the task of every needed object is planned -/
theorem needed_planned
    (hA : Acyclic p) (hI : InstOK p) (hF : FuelOK p fuel) (i : Iid) (h : NeededObj cfg p store i) :
    p.tidOf i ∈ (plan cfg p store fuel).pending := by
  induction h with
  | req hi =>
    exact plan_requested_pending cfg p store fuel (Nat.lt_of_le_of_lt (Nat.zero_le _) (hF _ hi)) _ hi
  | @dep i c _ huc hc ih =>
    -- the first recorded object of `tidOf i` has the same child tids as `i`
    have hJ := plan_PJ cfg p store fuel
    have hne := hJ.pendInst _ ih
    cases hl : (plan cfg p store fuel).instances (p.tidOf i) with
    | nil => exact absurd hl hne
    | cons i' rest =>
      have hi' : i' ∈ (plan cfg p store fuel).instances (p.tidOf i) := by rw [hl]; simp
      have hti' := (hJ.instTid _ i' hi').1
      have hch := hI i' i hti'
      have hcm : p.tidOf c ∈ (p.children i').map p.tidOf := by
        rw [hch]; exact List.mem_map.mpr ⟨c, hc, rfl⟩
      obtain ⟨c', hc', hcc⟩ := List.mem_map.mp hcm
      have hd := plan_ddeps_complete cfg p store fuel (p.tidOf i) i' hi' huc c' hc'
      rw [hcc] at hd
      exact plan_closed cfg p store fuel hA hF (p.tidOf i) ih (p.tidOf c) hd

theorem run_flagTr :
    FlagTr cfg p store [] (loopHead cfg p store fuel sched) := (loopHead_flag cfg p store fuel sched).1

/-- every worker record belongs to a planned task -/
theorem loopHead_ran_planned (t : Tid) (h : t ∈ ranOf (loopHead cfg p store fuel sched).trace) :
    t ∈ (plan cfg p store fuel).pending := by
  obtain ⟨uc, hs⟩ := (mem_submittedOf _ _).mp ((run_flagTr cfg p store fuel sched).ranSubm t h)
  exact loopHead_submitted_planned cfg p store fuel sched t uc hs

/-- a run that returned has delivered every planned task -/
theorem returned_all_yielded (r : List (Tid × Val)) (h : (run cfg p store fuel sched).status = .returned r) :
    ∀ t, t ∈ (plan cfg p store fuel).pending ↔ t ∈ yielded (loopHead cfg p store fuel sched) := by
  have hc := (reach_all cfg p store fuel sched).1
  rcases finish_status_cases (reqTids p) (loopHead cfg p store fuel sched) with h' | ⟨_, hlc, _⟩
  · have : (loopHead cfg p store fuel sched).status = .returned r := by rw [← h']; exact h
    exact absurd this (hc.noRet r)
  · exact hc.all_yielded hlc

end Lt
