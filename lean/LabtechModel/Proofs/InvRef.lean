import LabtechModel.Proofs.InvMain
/-!
# C01: the values a run returns are those of the plain sequential dependency-first evaluation

`refEval p obj t`: evaluate `t` by recursion on tids, each task's `run()` applied to the reference
values of the task objects in the parameters of the object `obj t` chosen for `t`.
`RefInv`: every yielded outcome is `ok (refEval t)`, the store stays sound, captured results are the
yielded values. It holds at every loop head (`loopHead_ref`, `Proofs/Inv2Main.lean`) as the case of the
failure-aware invariants `ValInv` / `FlagInv` in which nothing fails.
-/
namespace Lt

def refAux (p : Problem) (obj : Tid → Iid) : Nat → Tid → Option Val
  | 0, _ => none
  | n + 1, t => p.behave t ((p.children (obj t)).map (fun c => refAux p obj n (p.tidOf c)))

/-- the reference evaluation: dependencies first, by recursion on tids -/
def refEval (p : Problem) (obj : Tid → Iid) (t : Tid) : Option Val := refAux p obj (t + 1) t

/-- `obj` picks, for every tid that has a task object, one of its objects -/
def ObjOK (p : Problem) (obj : Tid → Iid) : Prop := ∀ i, p.tidOf (obj (p.tidOf i)) = p.tidOf i

theorem ObjOK.child_lt {p : Problem} {obj : Tid → Iid} (hO : ObjOK p obj) (hA : Acyclic p) (i c : Iid)
    (hc : c ∈ p.children (obj (p.tidOf i))) : p.tidOf c < p.tidOf i := by
  have := hA (obj (p.tidOf i)) c hc
  rwa [hO i] at this

/-- no task raises by itself or dies -/
def NoFail (p : Problem) : Prop := ∀ t, p.fails t = false ∧ p.dies t = false

/-- `run()` returns a value whenever every dependency read succeeds -/
def BehaveTotal (p : Problem) : Prop := ∀ t vs, (∀ o ∈ vs, o ≠ none) → p.behave t vs ≠ none

/-- results cached beforehand were produced by the same tasks -/
def StoreSound (p : Problem) (obj : Tid → Iid) (store : Store) : Prop :=
  ∀ t v, lookup t store = some v → refEval p obj t = some v

/-- a value computed with fuel by a step that reads only the values of the children of the task's
    object does not depend on the fuel once it exceeds the tid -/
theorem fuel_stable {β : Type} {p : Problem} {obj : Tid → Iid} (hA : Acyclic p) (hO : ObjOK p obj)
    (aux : Nat → Tid → β)
    (hstep : ∀ n m i, (∀ c ∈ p.children (obj (p.tidOf i)), aux m (p.tidOf c) = aux n (p.tidOf c)) →
      aux (m + 1) (p.tidOf i) = aux (n + 1) (p.tidOf i)) :
    ∀ n i m, p.tidOf i < n → p.tidOf i < m → aux m (p.tidOf i) = aux n (p.tidOf i) := by
  intro n
  induction n with
  | zero => intro i m h; exact absurd h (Nat.not_lt_zero _)
  | succ n ih =>
    intro i m hn hm
    cases m with
    | zero => exact absurd hm (Nat.not_lt_zero _)
    | succ m =>
      refine hstep n m i (fun c hc => ?_)
      have hlt := hO.child_lt hA i c hc
      exact ih c m (Nat.lt_of_lt_of_le hlt (Nat.le_of_lt_succ hn)) (Nat.lt_of_lt_of_le hlt (Nat.le_of_lt_succ hm))

theorem refAux_stable (p : Problem) (obj : Tid → Iid) (hA : Acyclic p) (hO : ObjOK p obj) :
    ∀ n i m, p.tidOf i < n → p.tidOf i < m →
      refAux p obj m (p.tidOf i) = refAux p obj n (p.tidOf i) :=
  fuel_stable hA hO (refAux p obj) (fun n m i h => by
    simp only [refAux]; exact congrArg _ (List.map_congr_left h))

/-- unfolding of the reference value of a task that has an object -/
theorem refEval_unfold (p : Problem) (obj : Tid → Iid) (hA : Acyclic p) (hO : ObjOK p obj) (i : Iid) :
    refEval p obj (p.tidOf i) =
      p.behave (p.tidOf i) (((p.children (obj (p.tidOf i))).map p.tidOf).map (refEval p obj)) := by
  simp only [refEval, refAux, List.map_map]
  congr 1
  apply List.map_congr_left
  intro c hc
  have hlt := hO.child_lt hA i c hc
  simp only [Function.comp]
  exact refAux_stable p obj hA hO (p.tidOf c + 1) c (p.tidOf i) (Nat.lt_succ_self _) hlt

theorem useCache_congr (cfg : Config) (p : Problem) (st st' : Store) (t : Tid)
    (h : lookup t st = lookup t st') : useCache cfg p st t = useCache cfg p st' t := by
  simp only [useCache, h]

structure RefHyp (p : Problem) (obj : Tid → Iid) : Prop where
  acyc : Acyclic p
  inst : InstOK p
  objOK : ObjOK p obj
  noFail : NoFail p
  total : BehaveTotal p

structure RefInv (cfg : Config) (p : Problem) (obj : Tid → Iid) (store0 : Store) (req : List Tid)
    (extra : List Tid) (rs : RS) : Prop where
  yOk : ∀ t o, Ev.yield t o ∈ rs.trace → ∃ v, o = .ok v ∧ refEval p obj t = some v
  storeSound : StoreSound p obj rs.store
  storeFrame : ∀ t, t ∉ yielded rs → t ∉ extra → lookup t rs.store = lookup t store0
  flag : ∀ j ∈ rs.queued ++ rs.running, j.useCache = useCache cfg p store0 j.tid
  capture : ∀ t ∈ req, ∀ v, Ev.yield t (.ok v) ∈ rs.trace → lookup t rs.taskResults = some v
  run : rs.status = .running

theorem saveIfRan_lookup_ne (p : Problem) (st : Store) (j : Job) (o : Outcome) (t : Tid) (ht : t ≠ j.tid) :
    lookup t (saveIfRan p st j o) = lookup t st := by
  cases o with
  | ok v =>
    simp only [saveIfRan]
    split
    · exact lookup_cons_filter_ne _ _ _ ht _
    · rfl
  | exc | died => rfl

theorem useCache_isSome (cfg : Config) (p : Problem) (st : Store) (t : Tid) (h : useCache cfg p st t = true) :
    (lookup t st).isSome := by
  simp only [useCache, Bool.and_eq_true] at h
  exact h.2

theorem saveAll_lookup_ne (p : Problem) (ts : TS) (t : Tid) :
    ∀ (js : List Job) (st : Store), (∀ j ∈ js, t ≠ j.tid) → lookup t (saveAll p ts js st) = lookup t st := by
  intro js
  induction js with
  | nil => intro st _; rfl
  | cons j js ih =>
    intro st h
    simp only [saveAll]
    rw [ih _ (fun j' hj' => h j' (List.mem_cons_of_mem _ hj')),
      saveIfRan_lookup_ne p st j _ t (h j List.mem_cons_self)]

end Lt
