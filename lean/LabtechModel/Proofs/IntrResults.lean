import LabtechModel.Proofs.IntrOnce
/-!
# M10: the in-memory results map (`results_map`) after EVERY primitive

`RI P req s` (`P` = the plan, `req` = the requested tids) holds in every state of every interrupted
run — after every prefix of the main stream, of the first handler's stream entered at any instant and
of the second handler's stream entered at any instant:
* `resY`, `resNd`: the map holds only `(d, v)` with `yield d (ok v)` on record, every key once;
* `yNd`: every task is yielded at most once (`yP`, `futPA`: a yielded task is neither in the work list
  nor tracked; a tracked future belongs to an active task that is not in the work list);
* `pdtY`, `pdtSub`: `task_to_pending_dependents[d]` lists only planned dependents of `d`, and at least
  those that have not been yielded;
* `held`: a result that was yielded successfully, whose task has left the active set (i.e.
  `complete_task(d)` has been entered) and whose `task_to_pending_dependents[d]` is not empty IS in the map;
* `cap`, `capY`: for a requested `d` the same for `task_results`, whatever the dependents;
* `actPd`, `pdA`: an active task has no pending dependency; a planned dependency that has left
  `task_to_pending_dependencies[x]` has been yielded and has left the active set;
* `remH`: every `remove_results(rem)` on record names only tasks all of whose planned dependents had
  been yielded before.
`RT req s s'` is the transition fact: an entry that is in the map in `s` and not in `s'` had an empty
`task_to_pending_dependents` in `s`, and, if requested, was in `task_results` in `s`.
Side conditions (`RG`) are discharged inside the blocks of the streams; every stream lemma starts from
ANY state with `RI`, so the handlers need nothing about where the interrupt fell.
`RI.heldSound`, `RI.neededHeld`, `RI.neededSpec`, `RI.released`: the readings of `RI` / `RT` that
`Props/C17.lean` uses.
-/
namespace Lt

variable {cfg : Config} {p : Problem}

theorem yieldedOf_append (a b : List Ev) : yieldedOf (a ++ b) = yieldedOf a ++ yieldedOf b := by
  simp [yieldedOf, List.filterMap_append]

theorem yieldedOf_ny (tr l : List Ev) (h : ∀ e ∈ l, evYield e = none) : yieldedOf (tr ++ l) = yieldedOf tr := by
  have : yieldedOf l = [] := filterMap_none _ l h
  rw [yieldedOf_append, this]; simp

theorem yieldedOf_snoc (tr : List Ev) (e : Ev) (h : evYield e = none) : yieldedOf (tr ++ [e]) = yieldedOf tr :=
  yieldedOf_ny tr [e] (fun e' he => by rw [List.mem_singleton.mp he]; exact h)

theorem yieldedOf_step (q : Prim) (s : IS) {t : Tid} (h : t ∈ yieldedOf s.rs.trace) :
    t ∈ yieldedOf (applyPrim cfg p q s).rs.trace := by
  obtain ⟨l, hl, _⟩ := trace_ext q s
  rw [hl]; exact yieldedOf_mono _ _ _ h

theorem yield_unique : ∀ (tr : List Ev), (yieldedOf tr).Nodup → ∀ t o o',
    Ev.yield t o ∈ tr → Ev.yield t o' ∈ tr → o = o' := by
  intro tr
  induction tr with
  | nil => intro _ t o o' h; simp at h
  | cons e tr ih =>
    intro hnd t o o' h1 h2
    have hcons : yieldedOf (e :: tr) = yieldedOf [e] ++ yieldedOf tr := yieldedOf_append [e] tr
    rw [hcons, List.nodup_append] at hnd
    obtain ⟨_, hnd2, hdis⟩ := hnd
    have hmem : ∀ o'', Ev.yield t o'' ∈ tr → t ∈ yieldedOf tr := fun o'' h => (mem_yieldedOf _ _).mpr ⟨o'', h⟩
    have hhead : ∀ o'', e = Ev.yield t o'' → t ∈ yieldedOf [e] := by
      intro o'' he; subst he; simp [yieldedOf, evYield]
    rcases List.mem_cons.mp h1 with h1 | h1 <;> rcases List.mem_cons.mp h2 with h2 | h2
    · rw [← h1] at h2; cases h2; rfl
    · exact absurd rfl (hdis t (hhead _ h1.symm) t (hmem _ h2))
    · exact absurd rfl (hdis t (hhead _ h2.symm) t (hmem _ h1))
    · exact ih hnd2 t o o' h1 h2

def evPlainR : Ev → Bool
  | .yield _ _ | .remove _ _ => false
  | _ => true

/-- `remove_results(rem)` names only tasks all of whose planned direct dependents were yielded before -/
def RemOK (P : TS) (pre : List Ev) : Ev → Prop
  | .remove rem _ => ∀ d ∈ rem, ∀ t, d ∈ P.ddeps t → t ∈ yieldedOf pre
  | _ => True

theorem evPlainR_facts {P : TS} (e : Ev) (h : evPlainR e = true) : evYield e = none ∧ ∀ pre, RemOK P pre e := by
  cases e <;> simp [evPlainR] at h <;> exact ⟨rfl, fun _ => trivial⟩

structure RI (P : TS) (req : List Tid) (s : IS) : Prop where
  resY : ∀ d v, (d, v) ∈ s.rs.results → Ev.yield d (.ok v) ∈ s.rs.trace
  resNd : (s.rs.results.map Prod.fst).Nodup
  yNd : (yieldedOf s.rs.trace).Nodup
  yP : ∀ t ∈ yieldedOf s.rs.trace, t ∉ s.rs.ts.pending ∧ t ∉ s.rs.futs
  futPA : ∀ t ∈ s.rs.futs, t ∉ s.rs.ts.pending ∧ t ∈ s.rs.ts.active
  ddEq : s.rs.ts.ddeps = P.ddeps
  pdtY : ∀ d t, d ∈ P.ddeps t → t ∈ s.rs.ts.pendDependents d ∨ t ∈ yieldedOf s.rs.trace
  pdtSub : ∀ d t, t ∈ s.rs.ts.pendDependents d → d ∈ P.ddeps t
  actPd : ∀ t ∈ s.rs.ts.active, s.rs.ts.pendDeps t = []
  pdA : ∀ x d, d ∈ P.ddeps x → d ∈ s.rs.ts.pendDeps x ∨ (d ∉ s.rs.ts.active ∧ d ∈ yieldedOf s.rs.trace)
  held : ∀ d v, Ev.yield d (.ok v) ∈ s.rs.trace → d ∉ s.rs.ts.active → s.rs.ts.pendDependents d ≠ [] →
    (d, v) ∈ s.rs.results
  cap : ∀ d v, d ∈ req → Ev.yield d (.ok v) ∈ s.rs.trace → d ∉ s.rs.ts.active → (d, v) ∈ s.rs.taskResults
  capY : ∀ d v, (d, v) ∈ s.rs.taskResults → Ev.yield d (.ok v) ∈ s.rs.trace
  remH : Hist (RemOK P) s.rs.trace

/-- the transition fact: what leaves the map was not needed any more, and was captured if requested -/
def RT (req : List Tid) (s s' : IS) : Prop :=
  ∀ d v, (d, v) ∈ s.rs.results → (d, v) ∉ s'.rs.results →
    s.rs.ts.pendDependents d = [] ∧ (d ∈ req → (d, v) ∈ s.rs.taskResults)

theorem RT_refl (req : List Tid) (s : IS) : RT req s s := fun _ _ h h' => absurd h h'

theorem RI.withRT {P : TS} {req : List Tid} {s s' : IS} (h' : RI P req s') (e : s'.rs.results = s.rs.results) :
    RI P req s' ∧ RT req s s' :=
  ⟨h', fun _ _ h1 h2 => absurd (e ▸ h1) h2⟩

/-- an active task's planned dependencies have all left the active set -/
theorem RI.actDeps {P : TS} {req : List Tid} {s : IS} (h : RI P req s) (t : Tid) (ht : t ∈ s.rs.ts.active)
    (d : Tid) (hd : d ∈ P.ddeps t) : d ∉ s.rs.ts.active := by
  rcases h.pdA t d hd with h1 | h1
  · rw [h.actPd t ht] at h1; simp at h1
  · exact h1.1

/-- the trace grows by plain events, futures are only dropped, the rest is unchanged -/
theorem RI.mono {P : TS} {req : List Tid} {s s' : IS} (h : RI P req s) (l : List Ev)
    (htr : s'.rs.trace = s.rs.trace ++ l) (hny : ∀ e ∈ l, evYield e = none)
    (hh : Hist (RemOK P) (s.rs.trace ++ l))
    (hres : s'.rs.results = s.rs.results) (htres : s'.rs.taskResults = s.rs.taskResults)
    (hts : s'.rs.ts = s.rs.ts) (hfut : ∀ t ∈ s'.rs.futs, t ∈ s.rs.futs) : RI P req s' := by
  have ey : yieldedOf s'.rs.trace = yieldedOf s.rs.trace := by rw [htr, yieldedOf_ny _ _ hny]
  have em : ∀ d o, Ev.yield d o ∈ s'.rs.trace ↔ Ev.yield d o ∈ s.rs.trace := by
    intro d o; rw [htr]; exact mem_yield_append_ny _ _ hny d o
  exact {
    resY := by intro d v hd; rw [em]; rw [hres] at hd; exact h.resY d v hd
    resNd := by rw [hres]; exact h.resNd
    yNd := by rw [ey]; exact h.yNd
    yP := by
      intro t ht; rw [ey] at ht; rw [hts]
      exact ⟨(h.yP t ht).1, fun hf => (h.yP t ht).2 (hfut t hf)⟩
    futPA := by intro t ht; rw [hts]; exact h.futPA t (hfut t ht)
    ddEq := by rw [hts]; exact h.ddEq
    pdtY := by rw [ey, hts]; exact h.pdtY
    pdtSub := by rw [hts]; exact h.pdtSub
    actPd := by rw [hts]; exact h.actPd
    pdA := by rw [ey, hts]; exact h.pdA
    held := by intro d v hy; rw [em] at hy; rw [hts, hres]; exact h.held d v hy
    cap := by intro d v hr hy; rw [em] at hy; rw [hts, htres]; exact h.cap d v hr hy
    capY := by intro d v hd; rw [em]; rw [htres] at hd; exact h.capY d v hd
    remH := by rw [htr]; exact hh }

theorem RI.same {P : TS} {req : List Tid} {s s' : IS} (h : RI P req s) (htr : s'.rs.trace = s.rs.trace)
    (hres : s'.rs.results = s.rs.results) (htres : s'.rs.taskResults = s.rs.taskResults)
    (hts : s'.rs.ts = s.rs.ts) (hfut : ∀ t ∈ s'.rs.futs, t ∈ s.rs.futs) : RI P req s' :=
  h.mono [] (by simpa using htr) (by simp) (by simpa using h.remH) hres htres hts hfut

theorem RI.plain {P : TS} {req : List Tid} {s s' : IS} (h : RI P req s) (l : List Ev)
    (htr : s'.rs.trace = s.rs.trace ++ l) (hl : ∀ e ∈ l, evPlainR e = true)
    (hres : s'.rs.results = s.rs.results) (htres : s'.rs.taskResults = s.rs.taskResults)
    (hts : s'.rs.ts = s.rs.ts) (hfut : ∀ t ∈ s'.rs.futs, t ∈ s.rs.futs) : RI P req s' :=
  h.mono l htr (fun e he => (evPlainR_facts (P := P) e (hl e he)).1)
    (h.remH.append_trivial (fun e he pre => (evPlainR_facts e (hl e he)).2 pre)) hres htres hts hfut

def RG (_P : TS) (req : List Tid) (s : IS) : Prim → Prop
  | .startTask t => s.rs.ts.pendDeps t = []
  | .regFuture t | .serialAppend t =>
    t ∉ s.rs.ts.pending ∧ t ∈ s.rs.ts.active ∧ t ∉ yieldedOf s.rs.trace
  | .storeResult t v | .capture t v => Ev.yield t (.ok v) ∈ s.rs.trace
  | .removeActive t =>
    t ∉ s.rs.futs ∧ ∀ v, Ev.yield t (.ok v) ∈ s.rs.trace →
      (t, v) ∈ s.rs.results ∧ (t ∈ req → (t, v) ∈ s.rs.taskResults)
  | .unblockOne t _ => t ∉ s.rs.ts.active ∧ t ∈ yieldedOf s.rs.trace
  | .releaseOne t _ => t ∈ yieldedOf s.rs.trace
  | .removeResult d => s.rs.ts.pendDependents d = [] ∧ d ∉ s.rs.ts.active
  | .removeDone rem => ∀ d ∈ rem, s.rs.ts.pendDependents d = []
  | _ => True

/-- primitives without a side condition -/
def Prim.rfree : Prim → Bool
  | .startTask _ | .regFuture _ | .serialAppend _ | .storeResult _ _ | .capture _ _ | .removeActive _
  | .unblockOne _ _ | .releaseOne _ _ | .removeResult _ | .removeDone _ => false
  | _ => true

theorem RG_of_free {P : TS} {req : List Tid} {s : IS} {q : Prim} (h : q.rfree = true) : RG P req s q := by
  cases q <;> first | exact True.intro | cases h

theorem mem_filter_key {l : List (Tid × Val)} {t : Tid} {kv : Tid × Val} :
    kv ∈ l.filter (fun kv => kv.1 ≠ t) ↔ kv ∈ l ∧ kv.1 ≠ t := by
  simp

theorem keys_cons_filter_nodup (l : List (Tid × Val)) (t : Tid) (v : Val) (h : (l.map Prod.fst).Nodup) :
    (((t, v) :: l.filter (fun kv => kv.1 ≠ t)).map Prod.fst).Nodup := by
  rw [List.map_cons, List.nodup_cons]
  refine ⟨?_, keys_filter_nodup l _ h⟩
  intro hm
  obtain ⟨kv, hkv, hk⟩ := List.mem_map.mp hm
  exact (mem_filter_key.mp hkv).2 hk

/-- `m[t] = v` on a map kept as a list with one entry per key -/
theorem mem_put_elim {m : List (Tid × Val)} {t d : Tid} {v w : Val}
    (h : (d, w) ∈ (t, v) :: m.filter (fun kv => kv.1 ≠ t)) : (d = t ∧ w = v) ∨ (d, w) ∈ m := by
  rcases List.mem_cons.mp h with h | h
  · cases h; exact Or.inl ⟨rfl, rfl⟩
  · exact Or.inr (mem_filter_key.mp h).1

theorem mem_put_of_mem {m : List (Tid × Val)} {t d : Tid} {v w : Val} (hv : d = t → w = v) (h : (d, w) ∈ m) :
    (d, w) ∈ (t, v) :: m.filter (fun kv => kv.1 ≠ t) := by
  by_cases hdt : d = t
  · rw [hdt, hv hdt]; exact List.mem_cons_self
  · exact List.mem_cons_of_mem _ (mem_filter_key.mpr ⟨h, hdt⟩)

/-- a second `yield t (ok w)` carries the same value -/
theorem RI.yieldVal {P : TS} {req : List Tid} {s : IS} (h : RI P req s) {t d : Tid} {v w : Val}
    (ht : Ev.yield t (.ok v) ∈ s.rs.trace) (hd : Ev.yield d (.ok w) ∈ s.rs.trace) (e : d = t) : w = v := by
  subst e
  cases yield_unique _ h.yNd d _ _ hd ht
  rfl

theorem RI_keyErr {P : TS} {req : List Tid} {s : IS} (h : RI P req s) : RI P req (keyErr s) :=
  h.same rfl rfl rfl rfl (fun _ ht => ht)

theorem RI_regFuture {P : TS} {req : List Tid} (t : Tid) (s : IS) (h : RI P req s)
    (hg : t ∉ s.rs.ts.pending ∧ t ∈ s.rs.ts.active ∧ t ∉ yieldedOf s.rs.trace) :
    RI P req (stepPrim cfg p (Prim.regFuture t) s) := by
  simp only [stepPrim]
  exact { h with
    yP := by
      intro x hx
      refine ⟨(h.yP x hx).1, ?_⟩
      simp only [List.mem_append, List.mem_singleton, not_or]
      exact ⟨(h.yP x hx).2, fun hxt => hg.2.2 (hxt ▸ hx)⟩
    futPA := by
      intro x hx
      simp only [List.mem_append, List.mem_singleton] at hx
      rcases hx with hx | rfl
      · exact h.futPA x hx
      · exact ⟨hg.1, hg.2.1⟩ }

theorem RI_enqueue {P : TS} {req : List Tid} (t : Tid) (s : IS) (h : RI P req s) :
    RI P req (stepPrim cfg p (Prim.enqueue t) s) := by
  simp only [stepPrim]
  exact h.plain [Ev.submit t (mkJob cfg p s.rs t).useCache] rfl
    (fun e he => by simp only [List.mem_singleton] at he; subst he; rfl) rfl rfl rfl (fun _ ht => ht)

theorem RI_step {P : TS} {req : List Tid} (q : Prim) (s : IS) (h : RI P req s)
    (hg : s.rs.status = .running → RG P req s q) :
    RI P req (applyPrim cfg p q s) ∧ RT req s (applyPrim cfg p q s) := by
  by_cases hrun : ¬ s.rs.status = .running
  · rw [applyPrim_stopped q s hrun]; exact ⟨h, RT_refl req s⟩
  have hrun : s.rs.status = .running := Decidable.not_not.mp hrun
  replace hg := hg hrun
  rw [applyPrim_running q s hrun]
  cases q
  case startTask t =>
    simp only [stepPrim]
    cases hs : startTask s.rs.ts t with
    | none => exact (RI_keyErr h).withRT rfl
    | some ts' =>
      obtain ⟨htp, hts⟩ := startTask_some _ _ _ hs
      subst hts
      have hty : t ∉ yieldedOf s.rs.trace := fun hy => (h.yP t hy).1 htp
      refine RI.withRT ?_ rfl
      exact { h with
        yP := by
          intro x hx
          exact ⟨fun hp => (h.yP x hx).1 (List.mem_filter.mp hp).1, (h.yP x hx).2⟩
        futPA := by
          intro x hx
          exact ⟨fun hp => (h.futPA x hx).1 (List.mem_filter.mp hp).1, List.mem_append_left _ (h.futPA x hx).2⟩
        actPd := by
          intro x hx
          simp only [List.mem_append, List.mem_singleton] at hx
          rcases hx with hx | rfl
          · exact h.actPd x hx
          · exact hg
        pdA := by
          intro x d hd'
          rcases h.pdA x d hd' with h1 | h1
          · exact Or.inl h1
          · refine Or.inr ⟨?_, h1.2⟩
            simp only [List.mem_append, List.mem_singleton, not_or]
            exact ⟨h1.1, fun hdt => hty (hdt ▸ h1.2)⟩
        held := by
          intro d v hy hna
          exact h.held d v hy (fun ha => hna (List.mem_append_left _ ha))
        cap := by
          intro d v hr hy hna
          exact h.cap d v hr hy (fun ha => hna (List.mem_append_left _ ha)) }
  case enqueue t => exact (RI_enqueue t s h).withRT rfl
  case procStart t =>
    simp only [stepPrim]
    refine RI.withRT ?_ rfl
    exact h.plain [Ev.start t] rfl (fun e he => by simp only [List.mem_singleton] at he; subst he; rfl)
      rfl rfl rfl (fun _ ht => ht)
  case regFuture t => exact (RI_regFuture t s h hg).withRT rfl
  case serialAppend t =>
    rw [serialAppend_eq]
    refine RI.withRT ?_ rfl
    apply RI_regFuture t _ (RI_enqueue t s h)
    refine ⟨hg.1, hg.2.1, ?_⟩
    show t ∉ yieldedOf (s.rs.trace ++ [Ev.submit t (mkJob cfg p s.rs t).useCache])
    rw [yieldedOf_snoc _ _ rfl]
    exact hg.2.2
  case consumeResults c =>
    simp only [stepPrim]
    refine RI.withRT ?_ rfl
    refine h.plain ([Ev.waitEnter (s.rs.queued.map Job.tid) (s.rs.running.map Job.tid)] ++
        ((finOf c s.rs.running).map (jobEvents p s.rs.ts)).flatten) (by simp) ?_ rfl rfl rfl (fun _ ht => ht)
    intro e he
    simp only [List.mem_append, List.mem_singleton] at he
    rcases he with rfl | he
    · rfl
    · obtain ⟨es, hes, hmem⟩ := List.mem_flatten.mp he
      obtain ⟨j, _, rfl⟩ := List.mem_map.mp hes
      rcases jobEvents_cases p _ j e hmem with rfl | rfl <;> rfl
  case popFuture t o =>
    simp only [stepPrim]
    split
    · next htf =>
      cases o with
      | none =>
        refine RI.withRT ?_ rfl
        exact h.same rfl rfl rfl rfl (fun x hx => (List.mem_filter.mp hx).1)
      | some o =>
        have hty : t ∉ yieldedOf s.rs.trace := fun hy => (h.yP t hy).2 htf
        have ey : yieldedOf (s.rs.trace ++ [Ev.yield t o]) = yieldedOf s.rs.trace ++ [t] := by
          rw [yieldedOf_append]; rfl
        -- `t` is still active, so what `held` and `cap` speak of was yielded before
        have hold : ∀ d v, Ev.yield d (.ok v) ∈ s.rs.trace ++ [Ev.yield t o] → d ∉ s.rs.ts.active →
            Ev.yield d (.ok v) ∈ s.rs.trace := by
          intro d v hy hna
          rcases List.mem_append.mp hy with hy | hy
          · exact hy
          · cases List.mem_singleton.mp hy; exact absurd (h.futPA t htf).2 hna
        refine RI.withRT ?_ rfl
        exact {
          resY := fun d v hd => List.mem_append_left _ (h.resY d v hd)
          resNd := h.resNd
          yNd := by
            show (yieldedOf (s.rs.trace ++ [Ev.yield t o])).Nodup
            rw [ey, List.nodup_append]
            exact ⟨h.yNd, by simp, fun a ha b hb => by
              simp only [List.mem_singleton] at hb; subst hb; exact fun hab => hty (hab ▸ ha)⟩
          yP := by
            intro x hx
            have hx' : x ∈ yieldedOf s.rs.trace ++ [t] := by rw [← ey]; exact hx
            simp only [List.mem_append, List.mem_singleton] at hx'
            rcases hx' with hx' | rfl
            · exact ⟨(h.yP x hx').1, fun hf => (h.yP x hx').2 (List.mem_filter.mp hf).1⟩
            · exact ⟨(h.futPA x htf).1, fun hf => by simpa using (List.mem_filter.mp hf).2⟩
          futPA := fun x hx => h.futPA x (List.mem_filter.mp hx).1
          ddEq := h.ddEq
          pdtY := fun d x hd' => (h.pdtY d x hd').imp id (yieldedOf_mono _ _ _)
          pdtSub := h.pdtSub
          actPd := h.actPd
          pdA := fun x d hd' => (h.pdA x d hd').imp id (fun h1 => ⟨h1.1, yieldedOf_mono _ _ _ h1.2⟩)
          held := fun d v hy hna => h.held d v (hold d v hy hna) hna
          cap := fun d v hr hy hna => h.cap d v hr (hold d v hy hna) hna
          capY := fun d v hd => List.mem_append_left _ (h.capY d v hd)
          remH := h.remH.snoc trivial }
    · exact (RI_keyErr h).withRT rfl
  case storeResult t v =>
    simp only [stepPrim]
    refine ⟨{ h with
      resY := fun d w hd => (mem_put_elim hd).elim (fun e => by rw [e.1, e.2]; exact hg) (h.resY d w)
      resNd := keys_cons_filter_nodup _ t v h.resNd
      held := fun d w hy hna hne => mem_put_of_mem (h.yieldVal hg hy) (h.held d w hy hna hne) },
      fun d w hd hnot => absurd (mem_put_of_mem (h.yieldVal hg (h.resY d w hd)) hd) hnot⟩
  case capture t v =>
    simp only [stepPrim]
    refine RI.withRT ?_ rfl
    exact { h with
      cap := fun d w hr hy hna => mem_put_of_mem (h.yieldVal hg hy) (h.cap d w hr hy hna)
      capY := fun d w hd => (mem_put_elim hd).elim (fun e => by rw [e.1, e.2]; exact hg) (h.capY d w) }
  case removeActive t =>
    simp only [stepPrim]
    cases hr : setRemove s.rs.ts.active t with
    | none => exact (RI_keyErr h).withRT rfl
    | some a =>
      obtain ⟨_, ha⟩ := setRemove_some _ _ _ hr
      subst ha
      have hsub : ∀ x, x ∉ s.rs.ts.active.filter (· ≠ t) → x ∉ s.rs.ts.active ∨ x = t := by
        intro x hx
        by_cases hxt : x = t
        · exact Or.inr hxt
        · exact Or.inl (fun hxa => hx (by simp [hxa, hxt]))
      refine RI.withRT ?_ rfl
      exact { h with
        futPA := by
          intro x hx
          refine ⟨(h.futPA x hx).1, ?_⟩
          simp only [List.mem_filter, decide_eq_true_eq]
          exact ⟨(h.futPA x hx).2, fun hxt => hg.1 (hxt ▸ hx)⟩
        actPd := fun x hx => h.actPd x (List.mem_filter.mp hx).1
        pdA := by
          intro x d hd'
          rcases h.pdA x d hd' with h1 | h1
          · exact Or.inl h1
          · exact Or.inr ⟨fun hda => h1.1 (List.mem_filter.mp hda).1, h1.2⟩
        held := by
          intro d v hy hna hne
          rcases hsub d hna with h1 | rfl
          · exact h.held d v hy h1 hne
          · exact (hg.2 v hy).1
        cap := by
          intro d v hr' hy hna
          rcases hsub d hna with h1 | rfl
          · exact h.cap d v hr' hy h1
          · exact (hg.2 v hy).2 hr' }
  case unblockOne t d =>
    simp only [stepPrim]
    cases hr : setRemove (s.rs.ts.pendDeps d) t with
    | none => exact (RI_keyErr h).withRT rfl
    | some l =>
      obtain ⟨_, hl⟩ := setRemove_some _ _ _ hr
      subst hl
      refine RI.withRT ?_ rfl
      exact { h with
        actPd := fun x hx => List.eq_nil_iff_forall_not_mem.mpr fun y hy => by
          have := (mem_upd_remove.mp hy).1
          rw [h.actPd x hx] at this; exact nomatch this
        pdA := fun x y hy => (h.pdA x y hy).elim
          (fun h1 => if hyt : y = t then Or.inr (hyt ▸ hg) else Or.inl (mem_upd_remove.mpr ⟨h1, fun _ => hyt⟩))
          Or.inr }
  case releaseOne t d =>
    simp only [stepPrim]
    cases hr : setRemove (s.rs.ts.pendDependents d) t with
    | none => exact (RI_keyErr h).withRT rfl
    | some l =>
      obtain ⟨_, hl⟩ := setRemove_some _ _ _ hr
      subst hl
      refine RI.withRT ?_ rfl
      exact { h with
        pdtY := fun d' x hx => (h.pdtY d' x hx).elim
          (fun h1 => if hxt : x = t then Or.inr (hxt ▸ hg) else Or.inl (mem_upd_remove.mpr ⟨h1, fun _ => hxt⟩))
          Or.inr
        pdtSub := fun d' x hx => h.pdtSub d' x (mem_upd_remove.mp hx).1
        held := fun d' v hy hna hne => h.held d' v hy hna fun hnil => hne
          (List.eq_nil_iff_forall_not_mem.mpr fun y hy => by
            have := (mem_upd_remove.mp hy).1; rw [hnil] at this; exact nomatch this) }
  case removeResult d =>
    simp only [stepPrim]
    refine ⟨{ h with
      resY := fun d' v hd' => h.resY d' v (mem_filter_key.mp hd').1
      resNd := keys_filter_nodup _ _ h.resNd
      held := by
        intro d' v hy hna hne
        have hdd : d' ≠ d := fun hdd => hne (hdd ▸ hg.1)
        exact mem_filter_key.mpr ⟨h.held d' v hy hna hne, hdd⟩ }, ?_⟩
    intro d' w hd hnot
    have hdd : d' = d := Classical.byContradiction fun hne => hnot (mem_filter_key.mpr ⟨hd, hne⟩)
    subst hdd
    exact ⟨hg.1, fun hr => h.cap d' w hr (h.resY d' w hd) hg.2⟩
  case removeDone rem =>
    simp only [stepPrim]
    refine RI.withRT ?_ rfl
    refine h.mono [Ev.remove rem (s.rs.results.map (·.1))] rfl
      (fun e he => by simp only [List.mem_singleton] at he; subst he; rfl) ?_ rfl rfl rfl (fun _ ht => ht)
    apply h.remH.snoc
    intro d hd x hx
    rcases h.pdtY d x hx with h1 | h1
    · rw [hg d hd] at h1; simp at h1
    · exact h1
  case popDeque =>
    simp only [stepPrim]
    cases hq : s.rs.queued with
    | nil =>
      refine RI.withRT ?_ rfl
      exact h.plain [Ev.waitEnter ([].map Job.tid) []] rfl
        (fun e he => by simp only [List.mem_singleton] at he; subst he; rfl) rfl rfl rfl (fun _ ht => ht)
    | cons j rest =>
      refine RI.withRT ?_ rfl
      exact h.plain [Ev.waitEnter ((j :: rest).map Job.tid) []] rfl
        (fun e he => by simp only [List.mem_singleton] at he; subst he; rfl) rfl rfl rfl (fun _ ht => ht)
  case serialRun =>
    simp only [stepPrim]
    cases hc : s.cur with
    | none => exact ⟨h, RT_refl req s⟩
    | some j =>
      refine RI.withRT ?_ rfl
      refine h.plain ([Ev.start j.tid] ++ runEvents p s.rs.ts j) (by simp) ?_ rfl rfl rfl (fun _ ht => ht)
      intro e he
      simp only [List.mem_append, List.mem_singleton] at he
      rcases he with rfl | he
      · rfl
      · rcases runEvents_cases p _ j e he with rfl | rfl <;> rfl
  case clearDeque =>
    simp only [stepPrim]
    refine RI.withRT ?_ rfl
    exact h.same rfl rfl rfl rfl (fun x hx => by simp at hx)
  -- the executor's own bookkeeping and the serial save: nothing that `RI` reads
  all_goals
    simp only [stepPrim]
    repeat' split
    all_goals exact RI.withRT (s := s) (h.same rfl rfl rfl rfl (fun _ ht => ht)) rfl

/-- the primitives of the submit path, of `_start_processes` and of the serial `run()` put no `yield` on record -/
theorem launch_yielded (q : Prim) (s : IS) (h : q.launches = true) :
    yieldedOf (applyPrim cfg p q s).rs.trace = yieldedOf s.rs.trace := by
  by_cases hrun : ¬ s.rs.status = .running
  · rw [applyPrim_stopped q s hrun]
  rw [applyPrim_running q s (Decidable.not_not.mp hrun)]
  cases q <;> simp [Prim.launches] at h
  case enqueue t => exact yieldedOf_snoc _ _ rfl
  case procStart t => exact yieldedOf_snoc _ _ rfl
  case serialAppend t => exact yieldedOf_snoc _ _ rfl
  case serialRun =>
    simp only [stepPrim]
    cases hc : s.cur with
    | none => rfl
    | some j =>
      simp only
      rw [List.append_assoc]
      apply yieldedOf_ny
      intro e he
      rcases List.mem_append.mp he with he | he
      · rw [List.mem_singleton.mp he]; rfl
      · rcases runEvents_cases p _ j e he with rfl | rfl <;> rfl
  all_goals
    simp only [stepPrim, keyErr]
    repeat' split
    all_goals rfl

/-- `Qa` in `s` and after every prefix of `ps`, and `T` between the two states of every single step -/
def Always2 (cfg : Config) (p : Problem) (Qa : IS → Prop) (T : IS → IS → Prop) : List Prim → IS → Prop
  | [], s => Qa s
  | q :: ps, s => Qa s ∧ T s (applyPrim cfg p q s) ∧ Always2 cfg p Qa T ps (applyPrim cfg p q s)

theorem Always2.head {Qa : IS → Prop} {T : IS → IS → Prop} {ps : List Prim} {s : IS}
    (h : Always2 cfg p Qa T ps s) : Qa s := by
  cases ps with
  | nil => exact h
  | cons q ps => exact h.1

theorem always2_append {Qa : IS → Prop} {T : IS → IS → Prop} : ∀ (a b : List Prim) (s : IS),
    Always2 cfg p Qa T (a ++ b) s ↔
      Always2 cfg p Qa T a s ∧ Always2 cfg p Qa T b (runPrims cfg p a s) := by
  intro a
  induction a with
  | nil =>
    intro b s
    simp only [List.nil_append, runPrims_nil, Always2]
    exact ⟨fun h => ⟨h.head, h⟩, fun h => h.2⟩
  | cons q a ih =>
    intro b s
    simp only [List.cons_append, Always2, runPrims_cons, ih]
    exact ⟨fun h => ⟨⟨h.1, h.2.1, h.2.2.1⟩, h.2.2.2⟩, fun h => ⟨h.1.1, h.1.2.1, h.1.2.2, h.2⟩⟩

theorem Always2.last {Qa : IS → Prop} {T : IS → IS → Prop} : ∀ {ps : List Prim} {s : IS},
    Always2 cfg p Qa T ps s → Qa (runPrims cfg p ps s) := by
  intro ps
  induction ps with
  | nil => intro s h; exact h
  | cons q ps ih => intro s h; exact ih h.2.2

theorem Always2.always {Qa : IS → Prop} {T : IS → IS → Prop} : ∀ {ps : List Prim} {s : IS},
    Always2 cfg p Qa T ps s → Always cfg p Qa ps s := by
  intro ps
  induction ps with
  | nil => intro s h; exact h
  | cons q ps ih => intro s h; exact ⟨h.1, ih h.2.2⟩

theorem Always2.pair {Qa : IS → Prop} {T : IS → IS → Prop} (hT : ∀ s, T s s) : ∀ {ps : List Prim} {s : IS},
    Always2 cfg p Qa T ps s → ∀ k, T (runPrims cfg p (ps.take k) s) (runPrims cfg p (ps.take (k + 1)) s) := by
  intro ps
  induction ps with
  | nil => intro s _ k; simpa using hT s
  | cons q ps ih =>
    intro s h k
    cases k with
    | zero => simpa using h.2.1
    | succ k => simpa using ih h.2.2 k

abbrev A2 (cfg : Config) (p : Problem) (P : TS) (req : List Tid) : List Prim → IS → Prop :=
  Always2 cfg p (RI P req) (RT req)

variable {P : TS} {req : List Tid}

theorem RI_guarded : Guarded cfg p (A2 cfg p P req) (RG P req) :=
  ⟨⟨always2_append⟩, fun q s h hg => have r := RI_step q s h hg; ⟨h, r.2, r.1⟩⟩

theorem A2_free (ps : List Prim) (hf : ∀ q ∈ ps, q.rfree = true) (s : IS) (h : RI P req s) :
    A2 cfg p P req ps s :=
  RI_guarded.free ps s (fun q hq _ => RG_of_free (hf q hq)) h

theorem A2_remove (rem : List Tid) (s : IS) (h : RI P req s)
    (hg : s.rs.status = .running → ∀ d ∈ rem, s.rs.ts.pendDependents d = [] ∧ d ∉ s.rs.ts.active) :
    A2 cfg p P req (removePrims rem) s := by
  refine RI_guarded.block (fun s => ∀ d ∈ rem, s.rs.ts.pendDependents d = [] ∧ d ∉ s.rs.ts.active) _ s h hg ?_
  intro q hq s hS
  simp only [removePrims, List.mem_append, List.mem_map, List.mem_singleton] at hq
  rcases hq with ⟨d, hd, rfl⟩ | rfl
  · exact ⟨hS d hd, fun _ => by rw [applyPrim_ts _ _ rfl]; exact hS⟩
  · exact ⟨fun d hd => (hS d hd).1, fun _ => by rw [applyPrim_ts _ _ rfl]; exact hS⟩

theorem release_facts (t : Tid) : ∀ (ds : List Tid) (pdt pdt' : Tid → List Tid) (rem : List Tid),
    release t ds pdt = some (pdt', rem) →
    (∀ d ∈ rem, d ∈ ds) ∧ (∀ x y, y ∈ pdt' x → y ∈ pdt x) ∧ (∀ d ∈ rem, pdt' d = []) := by
  intro ds
  induction ds with
  | nil =>
    intro pdt pdt' rem h
    simp only [release, Option.some.injEq, Prod.mk.injEq] at h
    obtain ⟨h1, h2⟩ := h
    subst h1; subst h2
    exact ⟨fun d hd => by simp at hd, fun _ _ hy => hy, fun d hd => by simp at hd⟩
  | cons x xs ih =>
    intro pdt pdt' rem h
    simp only [release] at h
    cases hr : setRemove (pdt x) t with
    | none => simp [hr] at h
    | some l =>
      simp only [hr] at h
      obtain ⟨_, hl⟩ := setRemove_some _ _ _ hr
      cases hrec : release t xs (upd pdt x l) with
      | none => simp [hrec] at h
      | some pr =>
        obtain ⟨pdt2, rem2⟩ := pr
        simp only [hrec, Option.some.injEq, Prod.mk.injEq] at h
        obtain ⟨h1, h2⟩ := h
        subst h1
        obtain ⟨i1, i2, i3⟩ := ih _ _ _ hrec
        have hsub : ∀ a y, y ∈ pdt2 a → y ∈ pdt a := fun a y hy =>
          (mem_upd_remove.mp (hl ▸ i2 a y hy)).1
        have hx : l = [] → pdt2 x = [] := by
          intro hnil
          apply List.eq_nil_iff_forall_not_mem.mpr
          intro y hy
          have := i2 x y hy
          simp [upd, hnil] at this
        refine ⟨?_, hsub, ?_⟩
        · intro d hd
          rw [← h2] at hd
          split at hd
          · rcases List.mem_cons.mp hd with rfl | hd
            · exact List.mem_cons_self
            · exact List.mem_cons_of_mem _ (i1 d hd)
          · exact List.mem_cons_of_mem _ (i1 d hd)
        · intro d hd
          rw [← h2] at hd
          split at hd
          · next hemp =>
            rcases List.mem_cons.mp hd with rfl | hd
            · exact hx (by simpa using hemp)
            · exact i3 d hd
          · exact i3 d hd

/-- what `complete_task` reports as removable: direct dependencies of the task, or the task itself,
    and every one of them with nothing left in `task_to_pending_dependents` -/
theorem completeTask_rem_facts (s s' : TS) (t : Tid) (rem : List Tid) (h : completeTask s t = some (s', rem)) :
    ∀ d ∈ rem, (d ∈ s.ddeps t ∨ d = t) ∧ s'.pendDependents d = [] := by
  obtain ⟨act, pd, pdt, rem0, _, _, hrel, hs, hrem⟩ := completeTask_some s s' t rem h
  obtain ⟨r1, _, r3⟩ := release_facts t _ _ _ _ hrel
  subst hs
  subst hrem
  intro d hd
  split at hd
  · next hemp =>
    rcases List.mem_append.mp hd with h1 | h1
    · exact ⟨Or.inl (r1 d h1), r3 d h1⟩
    · simp only [List.mem_singleton] at h1
      subst h1
      exact ⟨Or.inr rfl, by simpa using hemp⟩
  · exact ⟨Or.inl (r1 d hd), r3 d hd⟩

theorem completePrims_cons (ts : TS) (t : Tid) : completePrims ts t = Prim.removeActive t ::
    ((ts.pendDependents t).map (Prim.unblockOne t) ++ (ts.ddeps t).map (Prim.releaseOne t)) := by
  simp [completePrims]

/-- `complete_task(t)` and what follows it in the consumer's loop body -/
theorem A2_complete (ts : TS) (t : Tid) (s : IS) (tl : List Prim) (h : RI P req s)
    (hts : s.rs.ts = ts)
    (hga : s.rs.status = .running → RG P req s (Prim.removeActive t))
    (hy : s.rs.status = .running → t ∈ yieldedOf s.rs.trace ∧ t ∈ s.rs.ts.active)
    (htl : tl = removePrims (remOf ts t) ∨ tl = [Prim.raiseLabError t]) :
    A2 cfg p P req (completePrims ts t ++ tl) s := by
  by_cases hrun' : ¬ s.rs.status = .running
  · exact RI_guarded.stopped _ s hrun' h
  have hrun : s.rs.status = .running := Decidable.not_not.mp hrun'
  have hc : A2 cfg p P req (completePrims ts t) s := by
    rw [completePrims_cons]
    -- after `removeActive t`, `t` is yielded and not active, which the two loops leave alone
    refine RI_guarded.cons h hga (fun h1 => RI_guarded.block
      (fun s => t ∉ s.rs.ts.active ∧ t ∈ yieldedOf s.rs.trace) _ _ h1 ?_ ?_)
    · intro hrun1
      refine ⟨?_, yieldedOf_step _ _ (hy hrun).1⟩
      rw [applyPrim_running _ _ hrun] at hrun1 ⊢
      simp only [stepPrim] at hrun1 ⊢
      cases hr : setRemove s.rs.ts.active t with
      | none => rw [hr] at hrun1; simp [keyErr] at hrun1
      | some a =>
        obtain ⟨_, ha⟩ := setRemove_some _ _ _ hr
        subst ha
        simp
    · intro q hq s' hS
      simp only [List.mem_append, List.mem_map] at hq
      rcases hq with ⟨d, _, rfl⟩ | ⟨d, _, rfl⟩
      · exact ⟨hS, fun _ => by rw [applyPrim_active _ _ rfl]; exact ⟨hS.1, yieldedOf_step _ _ hS.2⟩⟩
      · exact ⟨hS.2, fun _ => by rw [applyPrim_active _ _ rfl]; exact ⟨hS.1, yieldedOf_step _ _ hS.2⟩⟩
  refine RI_guarded.seq hc (fun h6 => ?_)
  rcases htl with rfl | rfl
  · refine A2_remove _ _ h6 (fun _ => ?_)
    cases hct : completeTask ts t with
    | none => simp [remOf, hct]
    | some r =>
      obtain ⟨ts', rem⟩ := r
      have e6 := complete_refine (cfg := cfg) (p := p) s ts t ts' rem hrun hts hct
      have hrem : remOf ts t = rem := by simp [remOf, hct]
      have hf := completeTask_rem_facts ts ts' t rem hct
      have hact := completeTask_active ts ts' t rem hct
      rw [hrem, e6]
      simp only [IS.setTS_ts]
      refine fun d hd => ⟨(hf d hd).2, ?_⟩
      rw [hact]
      intro hda
      obtain ⟨hda, hdt⟩ := List.mem_filter.mp hda
      rcases (hf d hd).1 with h1 | h1
      · rw [← hts, h.ddEq] at h1
        rw [← hts] at hda
        exact h.actDeps t (hy hrun).2 d h1 hda
      · simp [h1] at hdt
  · exact A2_free _ (by simp [Prim.rfree]) _ h6

theorem mem_okHead {req : List Tid} {t : Tid} {v : Val} {q : Prim}
    (h : q ∈ [Prim.storeResult t v] ++ (if t ∈ req then [Prim.capture t v] else []) ++ [Prim.markInstances t]) :
    q = .storeResult t v ∨ q = .capture t v ∨ q = .markInstances t := by
  simp only [List.mem_append, List.mem_singleton] at h
  rcases h with (rfl | h) | rfl
  · exact Or.inl rfl
  · split at h
    · exact Or.inr (Or.inl (List.mem_singleton.mp h))
    · exact nomatch h
  · exact Or.inr (Or.inr rfl)

/-- after the three statements between the `yield` and `complete_task` for a successful task -/
theorem okHead_run (req : List Tid) (t : Tid) (v : Val) (s : IS) (hrun : s.rs.status = .running) :
    let s4 := runPrims cfg p ([Prim.storeResult t v] ++ (if t ∈ req then [Prim.capture t v] else [])
      ++ [Prim.markInstances t]) s
    s4.rs.ts = s.rs.ts ∧ s4.rs.futs = s.rs.futs ∧ (∃ l, s4.rs.trace = s.rs.trace ++ l) ∧
      (t, v) ∈ s4.rs.results ∧ (t ∈ req → (t, v) ∈ s4.rs.taskResults) := by
  intro s4
  have hq : ∀ q ∈ [Prim.storeResult t v] ++ (if t ∈ req then [Prim.capture t v] else [])
      ++ [Prim.markInstances t], q.quiet = true := fun q hq => by
    rcases mem_okHead hq with rfl | rfl | rfl <;> rfl
  obtain ⟨e1, e2, _⟩ := quiet_run _ s hq
  refine ⟨e1, e2, (trace_ext_list _ s).imp (fun _ h => h.1), ?_⟩
  have st : (t, v) ∈ (applyPrim cfg p (Prim.storeResult t v) s).rs.results := by
    rw [applyPrim_running _ _ hrun]; exact List.mem_cons_self
  have mk : ∀ s' : IS, (applyPrim cfg p (Prim.markInstances t) s').rs.results = s'.rs.results ∧
      (applyPrim cfg p (Prim.markInstances t) s').rs.taskResults = s'.rs.taskResults := fun s' =>
    by unfold applyPrim; split <;> exact ⟨rfl, rfl⟩
  show (t, v) ∈ s4.rs.results ∧ (t ∈ req → (t, v) ∈ s4.rs.taskResults)
  by_cases hreq : t ∈ req
  · have e : s4 = applyPrim cfg p (Prim.markInstances t) (applyPrim cfg p (Prim.capture t v)
        (applyPrim cfg p (Prim.storeResult t v) s)) := by simp only [s4, hreq, if_true]; rfl
    rw [e, (mk _).1, (mk _).2]
    refine ⟨?_, fun _ => ?_⟩
    · rw [show ∀ s' : IS, (applyPrim cfg p (Prim.capture t v) s').rs.results = s'.rs.results from
        fun s' => by unfold applyPrim; split <;> rfl]
      exact st
    · rw [applyPrim_running _ _ (by rw [applyPrim_status _ _ rfl]; exact hrun)]; exact List.mem_cons_self
  · have e : s4 = applyPrim cfg p (Prim.markInstances t) (applyPrim cfg p (Prim.storeResult t v) s) := by
      simp only [s4, hreq, if_false]; rfl
    rw [e, (mk _).1]
    exact ⟨st, fun h => absurd h hreq⟩

theorem A2_okHead (t : Tid) (v : Val) (s : IS) (h : RI P req s)
    (hy : s.rs.status = .running → Ev.yield t (.ok v) ∈ s.rs.trace) :
    A2 cfg p P req ([Prim.storeResult t v] ++ (if t ∈ req then [Prim.capture t v] else [])
      ++ [Prim.markInstances t]) s := by
  refine RI_guarded.block (fun s => Ev.yield t (.ok v) ∈ s.rs.trace) _ s h hy ?_
  intro q hq s hS
  obtain ⟨l, hl, _⟩ := trace_ext q s
  refine ⟨?_, fun _ => by rw [hl]; exact List.mem_append_left _ hS⟩
  rcases mem_okHead hq with rfl | rfl | rfl
  · exact hS
  · exact hS
  · trivial

theorem A2_popYield (t : Tid) (o : Outcome) (s : IS) (h : RI P req s) :
    A2 cfg p P req (Prim.popFuture t (some o) :: yieldPrims cfg req s.rs.ts t o) s := by
  by_cases hrun' : ¬ s.rs.status = .running
  · exact RI_guarded.stopped _ s hrun' h
  have hrun : s.rs.status = .running := Decidable.not_not.mp hrun'
  refine RI_guarded.cons h (fun _ => trivial) (fun h1 => ?_)
  by_cases htf : t ∈ s.rs.futs
  · -- the state after the pop
    obtain ⟨s1, hs1⟩ : ∃ s1, s1 = applyPrim cfg p (Prim.popFuture t (some o)) s := ⟨_, rfl⟩
    rw [← hs1] at h1 ⊢
    have f1 : s1.rs.status = .running ∧ s1.rs.ts = s.rs.ts ∧ t ∉ s1.rs.futs ∧ Ev.yield t o ∈ s1.rs.trace := by
      rw [hs1, applyPrim_running _ _ hrun]
      simp [stepPrim, htf, hrun]
    obtain ⟨r1, t1, nf1, y1⟩ := f1
    have a1 : t ∈ s1.rs.ts.active := by rw [t1]; exact (h.futPA t htf).2
    have ty1 : t ∈ yieldedOf s1.rs.trace := (mem_yieldedOf _ _).mpr ⟨o, y1⟩
    have fail : ∀ (o' : Outcome), o = o' → (∀ v, o' ≠ .ok v) → ∀ tl,
        (tl = removePrims (remOf s.rs.ts t) ∨ tl = [Prim.raiseLabError t]) →
        A2 cfg p P req (completePrims s.rs.ts t ++ tl) s1 := by
      intro o' ho hno tl htl
      refine A2_complete _ t s1 tl h1 t1 (fun _ => ⟨nf1, ?_⟩) (fun _ => ⟨ty1, a1⟩) htl
      intro v hv
      have := yield_unique _ h1.yNd t _ _ hv y1
      exact absurd (ho ▸ this.symm) (hno v)
    cases o with
    | ok v =>
      simp only [yieldPrims]
      rw [List.append_assoc]
      refine RI_guarded.seq (A2_okHead t v s1 h1 (fun _ => y1)) (fun h4 => ?_)
      obtain ⟨t4, f4, ⟨l, tr4⟩, res4, tres4⟩ := okHead_run req t v s1 r1
      refine A2_complete _ t _ _ h4 (t4.trans t1) (fun _ => ⟨by rw [f4]; exact nf1, ?_⟩)
        (fun _ => ⟨by rw [tr4]; exact yieldedOf_mono _ _ _ ty1, by rw [t4]; exact a1⟩) (Or.inl rfl)
      intro v' hv'
      have : Outcome.ok v' = Outcome.ok v :=
        yield_unique _ h4.yNd t _ _ hv' (by rw [tr4]; exact List.mem_append_left _ y1)
      cases this
      exact ⟨res4, tres4⟩
    | exc =>
      simp only [yieldPrims]
      exact fail .exc rfl (fun v hv => by cases hv) _ (by split <;> simp)
    | died =>
      simp only [yieldPrims]
      exact fail .died rfl (fun v hv => by cases hv) _ (by split <;> simp)
  · apply RI_guarded.stopped _ _ _ h1
    rw [applyPrim_running _ _ hrun]
    simp [stepPrim, htf, keyErr]

theorem A2_wait : ∀ (c : Choice) (s : IS), RI P req s → A2 cfg p P req (waitPrims cfg p req c s) s :=
  RI_guarded.isSeq.wait (fun _ => A2_free _ (by simp [Prim.rfree]))
    (fun _ s _ _ _ => A2_free _ (by simp [Prim.rfree]) s) (fun _ => A2_popYield)
    (fun _ c s => A2_free _ (forall_consume_dead rfl (fun _ => rfl)) s)
    (fun _ s => A2_free _ (forall_mem_startPrims (fun _ => ⟨rfl, rfl, rfl⟩) _) s)
    (fun _ => RI_guarded.isSeq.done (fun t => A2_free _ (by simp [Prim.rfree])) A2_popYield)

/-- from `start_task(t)` to `future_to_task[future] = task` nothing touches the scheduler state or yields,
    so what `start_task` established is still there when the future is registered -/
theorem A2_submitOne (s : IS) (t : Tid) (h : RI P req s)
    (hpd : s.rs.ts.pendDeps t = []) : A2 cfg p P req (submitOnePrims cfg p s t) s := by
  have key : ∀ tl : List Prim, (∀ q ∈ tl, q.touchesTS = false ∧ q.launches = true ∧
      (q.rfree = true ∨ q = .serialAppend t ∨ q = .regFuture t)) →
      A2 cfg p P req (Prim.startTask t :: tl) s := by
    intro tl htl
    refine RI_guarded.cons h (fun _ => hpd) (fun h1 => RI_guarded.block
      (fun s => t ∉ s.rs.ts.pending ∧ t ∈ s.rs.ts.active ∧ t ∉ yieldedOf s.rs.trace) tl _ h1 ?_ ?_)
    · intro hr1
      obtain ⟨htp, hnp, hta, htr⟩ := startTask_facts s t hr1
      exact ⟨hnp, hta, by rw [htr]; exact fun hy => (h.yP t hy).1 htp⟩
    · intro q hq s' hS
      obtain ⟨h1, h2, h3⟩ := htl q hq
      refine ⟨?_, fun _ => by rw [applyPrim_ts q s' h1, launch_yielded q s' h2]; exact hS⟩
      rcases h3 with h3 | rfl | rfl
      · exact RG_of_free h3
      · exact hS
      · exact hS
  simp only [submitOnePrims]
  split
  · exact key _ (fun q hq => by rw [List.mem_singleton.mp hq]; exact ⟨rfl, rfl, Or.inr (Or.inl rfl)⟩)
  · generalize runPrims cfg p [Prim.startTask t, Prim.enqueue t] s = s1
    refine key (Prim.enqueue t :: (startProcessesPrims cfg s1 ++ [Prim.regFuture t])) ?_
    intro q hq
    rcases List.mem_cons.mp hq with rfl | hq
    · exact ⟨rfl, rfl, Or.inl rfl⟩
    rcases List.mem_append.mp hq with hq | hq
    · obtain ⟨j, _, rfl | rfl | rfl⟩ := mem_startPrims hq <;> exact ⟨rfl, rfl, Or.inl rfl⟩
    · rw [List.mem_singleton.mp hq]; exact ⟨rfl, rfl, Or.inr (Or.inr rfl)⟩

theorem submitOne_members (s : IS) (t : Tid) : ∀ q ∈ submitOnePrims cfg p s t, q.isUnblock = false := by
  intro q hq
  have := members_submit [t] s q (by simpa [submitPrims] using hq)
  cases q <;> first | rfl | cases this

theorem RI_walk : Walk cfg p req (A2 cfg p P req) where
  append := always2_append
  submit := fun s h _ => RI_guarded.isSeq.submitH (fun t s => s.rs.ts.pendDeps t = []) A2_submitOne
    (fun s t _ h => by
      rw [runPrims_keep (fun s => s.rs.ts.pendDeps) _ s
        (fun q hq s => applyPrim_pendDeps q s (submitOne_members _ t q hq))]; exact h)
    _ s h (fun t ht => (readyTasks_no_pending_deps p s.rs.ts t ht).1)
  wait := A2_wait
  cancel := fun s h => A2_free _ (fun q hq => by rcases mem_cancelPrims hq with rfl | ⟨t, rfl⟩ <;> rfl) s h
  stop := fun s h => A2_free _ (fun q hq => by obtain ⟨t, rfl⟩ := mem_stopPrims hq; rfl) s h

theorem RI_init (store : Store) (fuel : Nat) (req : List Tid) :
    RI (plan cfg p store fuel) req (initIS cfg p store fuel) := by
  have hP := plan_PI cfg p store fuel
  have hA := plan_active cfg p store fuel
  exact {
    resY := fun _ _ hd => nomatch hd
    resNd := List.nodup_nil
    yNd := List.nodup_nil
    yP := fun _ ht => nomatch ht
    futPA := fun _ ht => nomatch ht
    ddEq := rfl
    pdtY := fun d t hd => Or.inl ((hP.dual d t).mpr hd)
    pdtSub := fun d t ht => (hP.dual d t).mp ht
    actPd := by
      intro t ht
      have : t ∈ (plan cfg p store fuel).active := ht
      rw [hA] at this; simp at this
    pdA := fun x d hd => Or.inl (by
      show d ∈ (plan cfg p store fuel).pendDeps x
      rw [hP.pdEq]; exact hd)
    held := fun _ _ hy => nomatch hy
    cap := fun _ _ _ hy => nomatch hy
    capY := fun _ _ hd => nomatch hd
    remH := Hist_nil _ }

theorem main_A2 (store : Store) (fuel : Nat) (sched : List Choice) :
    A2 cfg p (plan cfg p store fuel) (reqTids p) (mainOf cfg p store fuel sched) (initIS cfg p store fuel) :=
  RI_walk.main sched _ (RI_init store fuel _)

theorem stateAt_RI (store : Store) (fuel : Nat) (sched : List Choice) (k : Nat) :
    RI (plan cfg p store fuel) (reqTids p) (stateAt cfg p store fuel sched k) :=
  (main_A2 store fuel sched).always.prefix k

theorem handler_A2 (store : Store) (fuel : Nat) (sched : List Choice) (k : Nat) (ds : List Choice) :
    A2 cfg p (plan cfg p store fuel) (reqTids p)
      (handlerPrims cfg p (reqTids p) ds (stateAt cfg p store fuel sched k)) (stateAt cfg p store fuel sched k) :=
  RI_walk.handler ds _ (stateAt_RI store fuel sched k)

theorem handlerStateAt_RI (store : Store) (fuel : Nat) (sched : List Choice) (k : Nat) (ds : List Choice) (m : Nat) :
    RI (plan cfg p store fuel) (reqTids p) (handlerStateAt cfg p store fuel sched k ds m) :=
  (handler_A2 store fuel sched k ds).always.prefix m

theorem second_A2 (store : Store) (fuel : Nat) (sched : List Choice) (k : Nat) (ds : List Choice) (m : Nat) :
    A2 cfg p (plan cfg p store fuel) (reqTids p)
      (secondPrims cfg p (reqTids p) (handlerStateAt cfg p store fuel sched k ds m))
      (handlerStateAt cfg p store fuel sched k ds m) :=
  RI_walk.second _ (handlerStateAt_RI store fuel sched k ds m)

theorem secondStateAt_RI (store : Store) (fuel : Nat) (sched : List Choice) (k : Nat) (ds : List Choice)
    (m m2 : Nat) : RI (plan cfg p store fuel) (reqTids p) (secondStateAt cfg p store fuel sched k ds m m2) :=
  (second_A2 store fuel sched k ds m).always.prefix m2

theorem instant_RI {store : Store} {fuel : Nat} {s : IS} (hs : Instant cfg p store fuel s) :
    RI (plan cfg p store fuel) (reqTids p) s := by
  cases hs with
  | main sched k => exact stateAt_RI store fuel sched k
  | handler sched k ds m => exact handlerStateAt_RI store fuel sched k ds m
  | second sched k ds m m2 => exact secondStateAt_RI store fuel sched k ds m m2

theorem stateAt_RT (store : Store) (fuel : Nat) (sched : List Choice) (k : Nat) :
    RT (reqTids p) (stateAt cfg p store fuel sched k) (stateAt cfg p store fuel sched (k + 1)) :=
  (main_A2 store fuel sched).pair (RT_refl _) k

theorem handlerStateAt_RT (store : Store) (fuel : Nat) (sched : List Choice) (k : Nat) (ds : List Choice) (m : Nat) :
    RT (reqTids p) (handlerStateAt cfg p store fuel sched k ds m) (handlerStateAt cfg p store fuel sched k ds (m + 1)) :=
  (handler_A2 store fuel sched k ds).pair (RT_refl _) m

theorem secondStateAt_RT (store : Store) (fuel : Nat) (sched : List Choice) (k : Nat) (ds : List Choice)
    (m m2 : Nat) : RT (reqTids p) (secondStateAt cfg p store fuel sched k ds m m2)
      (secondStateAt cfg p store fuel sched k ds m (m2 + 1)) :=
  (second_A2 store fuel sched k ds m).pair (RT_refl _) m2

/-- SAFETY: only values that were yielded successfully are held, never anything for a task that was
    yielded as failed or died, and every key once -/
theorem RI.heldSound {P : TS} {req : List Tid} {s : IS} (h : RI P req s) :
    (∀ d v, (d, v) ∈ s.rs.results →
      Ev.yield d (.ok v) ∈ s.rs.trace ∧ Ev.yield d .exc ∉ s.rs.trace ∧ Ev.yield d .died ∉ s.rs.trace) ∧
    (s.rs.results.map Prod.fst).Nodup := by
  refine ⟨fun d v hd => ⟨h.resY d v hd, ?_, ?_⟩, h.resNd⟩
  · intro he; cases yield_unique _ h.yNd d _ _ (h.resY d v hd) he
  · intro he; cases yield_unique _ h.yNd d _ _ (h.resY d v hd) he

/-- VALUE, with "needed" read off the trace: some planned direct dependent has not been yielded -/
theorem RI.neededHeld {P : TS} {req : List Tid} {s : IS} (h : RI P req s) (d : Tid) (v : Val) (t : Tid)
    (hy : Ev.yield d (.ok v) ∈ s.rs.trace) (hna : d ∉ s.rs.ts.active) (hd : d ∈ P.ddeps t)
    (hny : ∀ o, Ev.yield t o ∉ s.rs.trace) : (d, v) ∈ s.rs.results := by
  apply h.held d v hy hna
  rcases h.pdtY d t hd with h1 | h1
  · intro hnil; rw [hnil] at h1; simp at h1
  · obtain ⟨o, ho⟩ := (mem_yieldedOf _ _).mp h1
    exact absurd ho (hny o)

theorem RI.neededSpec {P : TS} {req : List Tid} {s : IS} (h : RI P req s) (d t : Tid) :
    (t ∈ s.rs.ts.pendDependents d → d ∈ P.ddeps t) ∧
    (d ∈ P.ddeps t → (∀ o, Ev.yield t o ∉ s.rs.trace) → t ∈ s.rs.ts.pendDependents d) := by
  refine ⟨h.pdtSub d t, fun hd hny => ?_⟩
  rcases h.pdtY d t hd with h1 | h1
  · exact h1
  · obtain ⟨o, ho⟩ := (mem_yieldedOf _ _).mp h1
    exact absurd ho (hny o)

/-- what leaves the map in one step was needed by nobody -/
theorem RI.released {P : TS} {req : List Tid} {s s' : IS} (h : RI P req s) (hT : RT req s s') (d : Tid) (v : Val)
    (hd : (d, v) ∈ s.rs.results) (hnot : (d, v) ∉ s'.rs.results) :
    s.rs.ts.pendDependents d = [] ∧ ∀ t, d ∈ P.ddeps t → ∃ o, Ev.yield t o ∈ s.rs.trace := by
  obtain ⟨h1, _⟩ := hT d v hd hnot
  refine ⟨h1, fun t ht => ?_⟩
  rcases h.pdtY d t ht with h2 | h2
  · rw [h1] at h2; simp at h2
  · exact (mem_yieldedOf _ _).mp h2

end Lt
