import LabtechModel.Proofs.ParamsSer
import LabtechModel.Model.Generated
/-! Cache keys, `cached_tasks`, pickling. -/
namespace Lt.Params

theorem cacheKey_toList (sha1 : String → String) (fmt : CacheFmt) (h : fmt.isNull = false) (t : Task) :
    (cacheKey sha1 fmt t).toList
      = fmt.kprefix.toList ++ (t.cls.qualname.toList ++ ('_' :: '_' :: (sha1 (cacheKeyPre t)).toList)) := by
  simp [cacheKey, h]

/-- characters of a Python identifier (ASCII letters, digits, underscore, or non-ASCII) -/
def keyCharOk (c : Char) : Bool :=
  decide ((48 ≤ c.toNat ∧ c.toNat ≤ 57) ∨ (65 ≤ c.toNat ∧ c.toNat ≤ 90) ∨ (97 ≤ c.toNat ∧ c.toNat ≤ 122)
    ∨ c.toNat = 95 ∨ 128 ≤ c.toNat)

/-- lower-case hexadecimal digit, what `hexdigest()` prints -/
def hexChar (c : Char) : Bool :=
  decide ((48 ≤ c.toNat ∧ c.toNat ≤ 57) ∨ (97 ≤ c.toNat ∧ c.toNat ≤ 102))

theorem hexChar_ok (c : Char) (h : hexChar c = true) : keyCharOk c = true := by
  simp only [hexChar, keyCharOk, decide_eq_true_eq] at *
  omega

theorem keyCharOk_allowed (c : Char) (h : keyCharOk c = true) : c ∉ Lt.Generated.disallowedKeyChars := by
  have hall : Lt.Generated.disallowedKeyChars.all (fun d => !keyCharOk d) = true := by decide
  intro hm
  have := List.all_eq_true.mp hall c hm
  simp [h] at this

/-- one `save`: the task, the cache format that wrote it, the stored result meta -/
structure Saved where
  t : Task
  fmt : CacheFmt
  rm : String

def Saved.entry (sha1 : String → String) (s : Saved) : Entry := saveEntry sha1 s.fmt s.t s.rm

/-- the cache configured for the type at the time of the `cached_tasks` call is (by name) the format that wrote the
entry -/
def sameFormat {D : Type} (env : Env D) (s : Saved) : Bool :=
  !(env.cacheOf s.t.cls).isNull && (env.cacheOf s.t.cls).name == s.fmt.name

/-- the entry has to be returned for this request -/
def wanted {D : Type} (env : Env D) (types : List ClassRef) (s : Saved) : Bool :=
  types.contains s.t.cls && sameFormat env s

/-- the task object that has to be returned for it -/
def expected {D : Type} (env : Env D) (s : Saved) : TaskObj D :=
  { mkObj env s.t with resultMeta := some s.rm }

theorem isPrefix_key (sha1 : String → String) (fmt : CacheFmt) (h : fmt.isNull = false) (t : Task) :
    isPrefix (fmt.kprefix ++ t.cls.qualname) (cacheKey sha1 fmt t) = true := by
  simp only [isPrefix, cacheKey_toList sha1 fmt h, String.toList_append, List.isPrefixOf_iff_prefix]
  rw [← List.append_assoc]
  exact List.prefix_append _ _

/- `hfmt`: a cache class name (`metadata['cache']`, the only thing `load_metadata` compares) denotes one cache
format, i.e. one key prefix. -/
section
variable {D : Type} (env : Env D) (s : Saved)
  (hwf : wfTask s.t = true) (hty : TypedT env.reg s.t) (hnn : s.fmt.isNull = false)
  (hfmt : ∀ c, (env.cacheOf c).isNull = false → (env.cacheOf c).name = s.fmt.name → env.cacheOf c = s.fmt)
include hwf hty

/-- the entry of a saved task is loaded for a type exactly when the three guards of `load_metadata` pass and the
`isinstance` test of `load_task` does -/
theorem loadTask_entry (ty : ClassRef) :
    loadTask env ty (s.entry env.sha1) =
      if (env.cacheOf ty).isNull = false ∧
          isPrefix ((env.cacheOf ty).kprefix ++ ty.qualname) (cacheKey env.sha1 s.fmt s.t) = true ∧
          s.fmt.name = (env.cacheOf ty).name ∧ s.t.cls = ty
      then .found (expected env s) else .notFound := by
  simp only [loadTask, Saved.entry, saveEntry, deTask_serTask env.reg s.t hwf hty, expected]
  by_cases h1 : (env.cacheOf ty).isNull = true
  · simp [h1]
  by_cases h2 : isPrefix ((env.cacheOf ty).kprefix ++ ty.qualname) (cacheKey env.sha1 s.fmt s.t) = true
  · by_cases h3 : s.fmt.name = (env.cacheOf ty).name
    · by_cases h4 : s.t.cls = ty <;> simp [h1, h2, h3, h4]
    · simp [h1, h2, h3]
  · simp [h1, h2]

theorem loadTask_other (ty : ClassRef) (hne : ty ≠ s.t.cls) :
    loadTask env ty (s.entry env.sha1) = .notFound := by
  rw [loadTask_entry env s hwf hty, if_neg fun h => hne h.2.2.2.symm]

include hnn hfmt
theorem loadTask_own :
    loadTask env s.t.cls (s.entry env.sha1) = if sameFormat env s then .found (expected env s) else .notFound := by
  rw [loadTask_entry env s hwf hty]
  congr 1
  simp only [sameFormat, Bool.and_eq_true, Bool.not_eq_true', beq_iff_eq, and_true, eq_iff_iff]
  constructor
  · exact fun h => ⟨h.1, h.2.2.symm⟩
  · intro h
    rw [hfmt _ h.1 h.2]
    exact ⟨hnn, isPrefix_key env.sha1 s.fmt hnn s.t, rfl⟩

theorem tryTypes_entry : ∀ (types : List ClassRef),
    tryTypes env (s.entry env.sha1) types = if wanted env types s then .found (expected env s) else .notFound
  | [] => by simp [tryTypes, wanted]
  | ty :: rest => by
    have ih := tryTypes_entry rest
    by_cases hty' : ty = s.t.cls
    · subst hty'
      simp only [tryTypes, loadTask_own env s hwf hty hnn hfmt]
      cases hs : sameFormat env s with
      | true => simp [wanted, hs]
      | false => simp [ih, wanted, hs]
    · simp only [tryTypes, loadTask_other env s hwf hty ty hty', ih]
      have : ¬ (s.t.cls = ty) := fun h => hty' h.symm
      simp [wanted, this]
end

theorem expected_key {D : Type} (env : Env D) (s : Saved)
    (hfmt : ∀ c, (env.cacheOf c).isNull = false → (env.cacheOf c).name = s.fmt.name → env.cacheOf c = s.fmt)
    (h : sameFormat env s = true) : (expected env s).cacheKey = (s.entry env.sha1).key := by
  simp only [sameFormat, Bool.and_eq_true, Bool.not_eq_true', beq_iff_eq] at h
  simp [expected, mkObj, Saved.entry, saveEntry, hfmt _ h.1 h.2]

theorem renormFields_id : ∀ (fs : List (String × Value)), renormFields fs = .ok fs
  | [] => rfl
  | (k, v) :: rest => by simp [renormFields, normalize_embed v, renormFields_id rest]

theorem pickleRoundTrip_eq {D : Type} (env : Env D) (o : TaskObj D) :
    pickleRoundTrip env o = .ok { value := o.value, cacheKey := o.cacheKey, resultsMap := none, context := none,
                                  resultMeta := none, derived := env.postInit o.value } := by
  cases o with
  | mk value cacheKey resultsMap context resultMeta derived =>
    cases value with
    | mk c fs => simp [pickleRoundTrip, getstate, setstate, renormFields_id, Task.cls, Task.fields]

end Lt.Params
