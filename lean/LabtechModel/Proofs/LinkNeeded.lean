import LabtechModel.Props.C03
import LabtechModel.Props.C10
import LabtechModel.Proofs.StoreRefine
/-!
# Link scheduler model ↔ history model, part 1: the translation and the planned set

`toProblem`: a `Store.Universe` (task universe with dependencies, cache kinds, failing set `fl` of
this run, the run stamp `g`, the request) read as a scheduler `Lt.Problem`: one task object per task
(`tidOf = id`), `children t = U.deps t`, a type persists iff its cache class is not `NullCache` and
the Lab has a storage, `run()` raises iff `U.fails t` or `t ∈ fl`, and `behave` is literally the body
of `Store.runTask`: it fails when a dependency result is unavailable and otherwise returns
`U.value t g (dependency values)`.  No worker dies (the history model has no such event).

`mem_neededFrom`: the list `Store.neededFrom` (descending scan over `0 … n-1`) is exactly the closure
`Needed` of the request through NOT-cached tasks, strictly ascending; `neededObj_iff`: that
closure is the scheduler side's `NeededObj` of the translated problem (its plan: `planned_iff`, `Proofs/LinkSched.lean`).
-/
namespace Lt.Link
open Lt

/-- the body of `Store.runTask` after the `raises` test, as the scheduler's `behave` -/
def behaveOf (U : Store.Universe) (g : Nat) (t : Tid) (ds : List (Option Val)) : Option Val :=
  if ds.any Option.isNone then none else some (U.value t g (ds.map (fun o => o.getD 0)))

/-- the scheduler problem of one `run_tasks` call of the history model -/
def toProblem (U : Store.Universe) (mp : Nat → Option Nat) (g : Nat) (fl req : List Tid) : Problem where
  tidOf := id
  children := U.deps
  requested := req
  ty := U.ty
  maxPar := mp
  cacheable := fun T => U.cacheOf T != .null && !U.nullStorage
  fails := fun t => U.fails t || fl.contains t
  dies := fun _ => false
  behave := behaveOf U g

/-- the universe is a DAG named dependencies-first, and the request names tasks of the universe -/
structure UOK (U : Store.Universe) (req : List Tid) : Prop where
  down : ∀ t d, d ∈ U.deps t → d < t
  reqLt : ∀ t ∈ req, t < U.n

theorem toProblem_cacheable (U : Store.Universe) (mp : Nat → Option Nat) (g : Nat) (fl req : List Tid) (t : Tid) :
    (toProblem U mp g fl req).cacheable ((toProblem U mp g fl req).ty t) = Store.persists U t := rfl

theorem toProblem_fuelOK (U : Store.Universe) (mp : Nat → Option Nat) (g : Nat) (fl req : List Tid) (fuel : Nat) :
    FuelOK (toProblem U mp g fl req) fuel ↔ ∀ t ∈ req, t < fuel := Iff.rfl

theorem toProblem_refHypF (U : Store.Universe) (mp : Nat → Option Nat) (g : Nat) (fl req : List Tid)
    (hU : UOK U req) : RefHypF (toProblem U mp g fl req) id where
  acyc := fun i c hc => hU.down i c hc
  inst := by intro i j h; simp only [toProblem, id] at h; subst h; rfl
  objOK := fun _ => rfl

theorem toProblem_diesIn (U : Store.Universe) (mp : Nat → Option Nat) (g : Nat) (fl req : List Tid)
    (cfg : Config) (t : Tid) : diesIn cfg (toProblem U mp g fl req) t = false := by
  simp [diesIn, toProblem]

theorem runTask_eq (U : Store.Universe) (mp : Nat → Option Nat) (g : Nat) (fl req : List Tid)
    (vals : List (Tid × Option Val)) (t : Tid) :
    Store.runTask U g fl vals t =
      if (toProblem U mp g fl req).fails t then none
      else (toProblem U mp g fl req).behave t ((U.deps t).map (fun d => (Store.lookupV d vals).getD none)) := by
  show Store.runTask U g fl vals t =
    if (U.fails t || fl.contains t) = true then none
    else behaveOf U g t ((U.deps t).map (fun d => (Store.lookupV d vals).getD none))
  unfold Store.runTask behaveOf
  cases h : (U.fails t || fl.contains t) <;> simp

/-- a task is needed if it is requested, or a dependency of a needed task that is not served from the
    cache -/
inductive Needed (U : Store.Universe) (uc : Tid → Bool) (req : List Tid) : Tid → Prop
  | req {t : Tid} : t ∈ req → Needed U uc req t
  | dep {q t : Tid} : Needed U uc req q → uc q = false → t ∈ U.deps q → Needed U uc req t

theorem Needed.lt {U : Store.Universe} {uc : Tid → Bool} {req : List Tid} (hU : UOK U req) {t : Tid}
    (h : Needed U uc req t) : t < U.n := by
  induction h with
  | req h => exact hU.reqLt _ h
  | dep _ _ hd ih => exact Nat.lt_trans (hU.down _ _ hd) ih

def nfStep (U : Store.Universe) (uc : Tid → Bool) (req : List Tid) (acc : List Tid) (t : Tid) : List Tid :=
  if req.contains t || acc.any (fun q => !uc q && (U.deps q).contains t) then t :: acc else acc

/-- the scan invariant: after the tids `≥ k` have been scanned the accumulator holds exactly the needed
    ones among them, ascending -/
def ScanInv (U : Store.Universe) (uc : Tid → Bool) (req : List Tid) (k : Nat) (acc : List Tid) : Prop :=
  acc.Pairwise (· < ·) ∧ ∀ t, t ∈ acc ↔ (k ≤ t ∧ Needed U uc req t)

theorem scan_step (U : Store.Universe) (uc : Tid → Bool) (req : List Tid) (hU : UOK U req) (k : Nat)
    (acc : List Tid) (h : ScanInv U uc req (k + 1) acc) : ScanInv U uc req k (nfStep U uc req acc k) := by
  obtain ⟨hp, hm⟩ := h
  have hiff : (req.contains k || acc.any (fun q => !uc q && (U.deps q).contains k)) = true ↔ Needed U uc req k := by
    simp only [Bool.or_eq_true, List.contains_iff_mem, List.any_eq_true, Bool.and_eq_true,
      Bool.not_eq_true']
    constructor
    · rintro (h | ⟨q, hq, huc, hd⟩)
      · exact Needed.req h
      · exact Needed.dep ((hm q).mp hq).2 huc hd
    · intro h
      cases h with
      | req h => exact Or.inl h
      | @dep q _ hq huc hd =>
        exact Or.inr ⟨q, (hm q).mpr ⟨hU.down _ _ hd, hq⟩, huc, hd⟩
  unfold nfStep
  by_cases hn : Needed U uc req k
  · rw [if_pos (hiff.mpr hn)]
    refine ⟨List.pairwise_cons.mpr ⟨fun a ha => ((hm a).mp ha).1, hp⟩, fun t => ?_⟩
    simp only [List.mem_cons, hm]
    constructor
    · rintro (h | h)
      · subst h; exact ⟨Nat.le_refl _, hn⟩
      · exact ⟨Nat.le_of_succ_le h.1, h.2⟩
    · rintro ⟨h1, h2⟩
      by_cases hk : t = k
      · exact Or.inl hk
      · exact Or.inr ⟨Nat.lt_of_le_of_ne h1 (Ne.symm hk), h2⟩
  · rw [if_neg (fun h => hn (hiff.mp h))]
    refine ⟨hp, fun t => ?_⟩
    rw [hm]
    constructor
    · rintro ⟨h1, h2⟩; exact ⟨Nat.le_of_succ_le h1, h2⟩
    · rintro ⟨h1, h2⟩
      refine ⟨?_, h2⟩
      by_cases hk : t = k
      · subst hk; exact absurd h2 hn
      · exact Nat.lt_of_le_of_ne h1 (Ne.symm hk)

theorem scan_fold (U : Store.Universe) (uc : Tid → Bool) (req : List Tid) (hU : UOK U req) :
    ∀ (m : Nat) (acc : List Tid), ScanInv U uc req m acc →
      ScanInv U uc req 0 ((List.range m).reverse.foldl (nfStep U uc req) acc) := by
  intro m
  induction m with
  | zero => intro acc h; simpa using h
  | succ m ih =>
    intro acc h
    rw [List.range_succ, List.reverse_append]
    simp only [List.reverse_cons, List.reverse_nil, List.nil_append, List.singleton_append, List.foldl_cons]
    exact ih _ (scan_step U uc req hU m acc h)

/-- `Store.neededFrom` is exactly the needed closure, strictly ascending (hence duplicate-free, and
    every dependency comes before its dependents) -/
theorem neededFrom_spec (U : Store.Universe) (uc : Tid → Bool) (req : List Tid) (hU : UOK U req) :
    (Store.neededFrom U uc req).Pairwise (· < ·) ∧
    ∀ t, t ∈ Store.neededFrom U uc req ↔ Needed U uc req t := by
  have h : ScanInv U uc req 0 (Store.neededFrom U uc req) :=
    scan_fold U uc req hU U.n [] ⟨List.Pairwise.nil, fun t => by
      simp only [List.not_mem_nil, false_iff, not_and]
      intro h1 h2
      exact absurd (h2.lt hU) (Nat.not_lt.mpr h1)⟩
  exact ⟨h.1, fun t => by rw [h.2]; simp⟩

theorem mem_neededFrom (U : Store.Universe) (uc : Tid → Bool) (req : List Tid) (hU : UOK U req) (t : Tid) :
    t ∈ Store.neededFrom U uc req ↔ Needed U uc req t := (neededFrom_spec U uc req hU).2 t

theorem neededObj_iff (U : Store.Universe) (mp : Nat → Option Nat) (g : Nat) (fl req : List Tid)
    (cfg : Config) (st : Store) (t : Tid) :
    NeededObj cfg (toProblem U mp g fl req) st t ↔
      Needed U (useCache cfg (toProblem U mp g fl req) st) req t := by
  constructor
  · intro h
    induction h with
    | req h => exact Needed.req h
    | dep _ huc hc ih => exact Needed.dep ih huc hc
  · intro h
    induction h with
    | req h => exact NeededObj.req h
    | dep _ huc hd ih => exact NeededObj.dep ih huc hd

end Lt.Link
