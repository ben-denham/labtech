import LabtechModel.Proofs.InvLive
/-!
# Whole-run corollaries of the master invariant, in the form used by `Props/`
-/
namespace Lt

/-- the loop-head state after the iterations driven by `sched` -/
abbrev loopHead (cfg : Config) (p : Problem) (store : Store) (fuel : Nat) (sched : List Choice) : RS :=
  runLoop cfg p (reqTids p) sched (initRS cfg p store fuel)

variable (cfg : Config) (p : Problem) (store : Store) (fuel : Nat) (sched : List Choice)

theorem finish_trace (req : List Tid) (rs : RS) : (finish req rs).trace = rs.trace := by
  simp only [finish]; split <;> (try split) <;> rfl

theorem finish_results (req : List Tid) (rs : RS) : (finish req rs).results = rs.results := by
  simp only [finish]; split <;> (try split) <;> rfl

theorem finish_status_cases (req : List Tid) (rs : RS) :
    ((finish req rs).status = rs.status) ∨
    (rs.status = .running ∧ loopCond rs = false ∧ ∃ r, (finish req rs).status = .returned r) := by
  simp only [finish]
  split
  · next h =>
    split
    · left; rfl
    · next hl => right; exact ⟨h, by simpa using hl, _, rfl⟩
  · left; rfl

theorem run_trace :
    (run cfg p store fuel sched).trace = (loopHead cfg p store fuel sched).trace := finish_trace _ _

theorem plan_good (hA : Acyclic p) (hF : FuelOK p fuel) :
    PlanClosed (plan cfg p store fuel) ∧ ∀ t d, d ∈ (plan cfg p store fuel).ddeps t → d < t :=
  ⟨plan_closed cfg p store fuel hA hF, plan_ddeps_lt cfg p store fuel hA⟩

theorem processYield_status_cof (req : List Tid) (rs : RS) (t : Tid) (o : Outcome)
    (hcf : cfg.contOnFail = true) :
    (processYield cfg req rs t o).status = rs.status ∨
    (processYield cfg req rs t o).status = .raised .keyError := by
  cases o <;> simp only [processYield, hcf] <;> split <;> simp

/-- with `continue_on_failure` no step of the loop changes the status, the `KeyError` exits apart -/
theorem cof_stepInv (req : List Tid) (hcf : cfg.contOnFail = true) :
    StepInv cfg p req (fun rs => rs.status = .running ∨ rs.status = .raised .keyError) where
  submit := fun rs h => submitAll_ind (fun rs => rs.status = .running ∨ rs.status = .raised .keyError)
    (fun _ _ _ _ h => by rw [submitTask_status]; exact h) (fun _ _ => Or.inr rfl) _ rs h
  idle := fun _ _ h => h
  serial := fun _ _ _ _ _ h => h
  proc := fun _ c rs h => by rw [startProcesses_status]; exact h
  yield := fun rs t o h => by
    rcases processYield_status_cof cfg req { rs with futs := rs.futs.filter (· ≠ t) } t o hcf with h' | h'
    · rw [h']; exact h
    · exact Or.inr h'

/-- C10: with `continue_on_failure` the coordinator never raises -/
theorem loopHead_status_cof (hcf : cfg.contOnFail = true) :
    (loopHead cfg p store fuel sched).status = .running := by
  rcases (cof_stepInv cfg p _ hcf).runLoop sched (initRS cfg p store fuel) (Or.inl rfl) with h | h
  · exact h
  · exact absurd h (reach_all cfg p store fuel sched).1.noKey

theorem loopHead_hist :
    Hist (EvOK p (plan cfg p store fuel)) (loopHead cfg p store fuel sched).trace :=
  (reach_all cfg p store fuel sched).1.hist

/-- every `submit t`, `start t` and `exec t` in a loop-head trace is preceded by a yield of every
    direct dependency of `t` -/
theorem loopHead_after_deps (pre post : List Ev) (e : Ev) (t : Tid)
    (he : (∃ uc, e = Ev.submit t uc) ∨ e = Ev.start t ∨ (∃ seen, e = Ev.exec t seen))
    (h : (loopHead cfg p store fuel sched).trace = pre ++ e :: post) :
    ∀ d ∈ (plan cfg p store fuel).ddeps t, ∃ o, Ev.yield d o ∈ pre := by
  have hq := loopHead_hist cfg p store fuel sched pre e post h
  intro d hd
  rw [← mem_yieldedOf]
  rcases he with ⟨uc, rfl⟩ | rfl | ⟨seen, rfl⟩
  · exact hq d hd
  · exact hq d hd
  · exact hq.1 d hd

theorem loopHead_exec_snapshot (pre post : List Ev) (t : Tid) (seen : List (Option Val))
    (h : (loopHead cfg p store fuel sched).trace = pre ++ Ev.exec t seen :: post) :
    ∃ snap, seen = reads p (repr0 (plan cfg p store fuel) t) snap ∧
      ∀ d ∈ (plan cfg p store fuel).ddeps t, ∀ v,
        (lookup d snap = some v ↔ Ev.yield d (.ok v) ∈ pre) :=
  (loopHead_hist cfg p store fuel sched pre _ post h).2

theorem loopHead_submitted_nodup :
    (submittedOf (loopHead cfg p store fuel sched).trace).Nodup :=
  (reach_all cfg p store fuel sched).1.subNd

theorem loopHead_yielded_nodup :
    (yieldedOf (loopHead cfg p store fuel sched).trace).Nodup :=
  (reach_all cfg p store fuel sched).1.ts.ndY

/-- worker records (`exec` / `load`) carry pairwise distinct tasks -/
theorem loopHead_ran_nodup :
    (ranOf (loopHead cfg p store fuel sched).trace).Nodup :=
  (reach_all cfg p store fuel sched).1.ranNd

/-- at a running loop head every task with a worker record has been yielded -/
theorem loopHead_ran_yielded (hrun : (loopHead cfg p store fuel sched).status = .running) :
    ∀ t ∈ ranOf (loopHead cfg p store fuel sched).trace, t ∈ yielded (loopHead cfg p store fuel sched) := by
  intro t ht
  rcases ((reach_all cfg p store fuel sched).2 hrun).ranSub t ht with h | h
  · exact h
  · simp at h

theorem loopHead_submitted_planned (t : Tid) (uc : Bool)
    (h : Ev.submit t uc ∈ (loopHead cfg p store fuel sched).trace) :
    t ∈ (plan cfg p store fuel).pending := by
  have hc := (reach_all cfg p store fuel sched).1
  rw [hc.ts.cover]
  rcases (hc.subAct t).mp ((mem_submittedOf _ _).mpr ⟨uc, h⟩) with h1 | h1
  · exact Or.inr (Or.inl h1)
  · exact Or.inr (Or.inr h1)

theorem loopHead_yielded_submitted (t : Tid) (o : Outcome)
    (h : Ev.yield t o ∈ (loopHead cfg p store fuel sched).trace) :
    ∃ uc, Ev.submit t uc ∈ (loopHead cfg p store fuel sched).trace := by
  have hc := (reach_all cfg p store fuel sched).1
  rw [← mem_submittedOf, hc.subAct]
  exact Or.inr ((mem_yieldedOf _ _).mpr ⟨o, h⟩)

theorem loopHead_live :
    Live cfg p (plan cfg p store fuel) (loopHead cfg p store fuel sched) :=
  runLoop_live _ (plan_PI cfg p store fuel) sched _ (initRS_live cfg p store fuel)

theorem loopHead_exhausts :
    readyTasks p (submitAll cfg p (readyTasks p (loopHead cfg p store fuel sched).ts)
      (loopHead cfg p store fuel sched)).ts = [] :=
  submit_exhausts cfg p _ (reach_all cfg p store fuel sched).1.ts.ndP

theorem loopHead_no_deadlock (hA : Acyclic p) (hF : FuelOK p fuel) (hL : LimitsPos cfg p)
    (hrun : (loopHead cfg p store fuel sched).status = .running) :
    ((submitAll cfg p (readyTasks p (loopHead cfg p store fuel sched).ts)
        (loopHead cfg p store fuel sched)).ts.pending ≠ [] →
      (submitAll cfg p (readyTasks p (loopHead cfg p store fuel sched).ts)
        (loopHead cfg p store fuel sched)).futs ≠ []) ∧
    (cfg.backend ≠ .serial →
      (submitAll cfg p (readyTasks p (loopHead cfg p store fuel sched).ts)
        (loopHead cfg p store fuel sched)).futs ≠ [] →
      (submitAll cfg p (readyTasks p (loopHead cfg p store fuel sched).ts)
        (loopHead cfg p store fuel sched)).running ≠ []) := by
  obtain ⟨hCl, hLt⟩ := plan_good cfg p store fuel hA hF
  exact submit_inflight (plan_PI cfg p store fuel) hCl hLt hL (loopHead_live cfg p store fuel sched) hrun

/-- once the loop condition is false, every planned task has been delivered -/
theorem Core.all_yielded {p : Problem} {P : TS} {rs : RS} (hc : Core p P rs) (hlc : loopCond rs = false)
    (t : Tid) : t ∈ P.pending ↔ t ∈ yielded rs := by
  simp only [loopCond, Bool.or_eq_false_iff, Bool.not_eq_eq_eq_not, Bool.not_false,
    List.isEmpty_iff] at hlc
  refine ⟨fun htP => ?_, fun h => (hc.ts.cover t).mpr (Or.inr (Or.inr h))⟩
  rcases (hc.ts.cover _).mp htP with h | h | h
  · rw [hlc.1] at h; cases h
  · have := (hc.futsAct _).mpr h
    rw [hlc.2] at this; cases this
  · exact h

/-- C11: a fair schedule longer than the plan drives the loop to its end -/
theorem loopHead_done (hA : Acyclic p) (hF : FuelOK p fuel) (hL : LimitsPos cfg p) (hfair : Fair sched)
    (hlen : (plan cfg p store fuel).pending.length + 1 ≤ sched.length) :
    (loopHead cfg p store fuel sched).status ≠ .running ∨
      loopCond (loopHead cfg p store fuel sched) = false := by
  obtain ⟨hCl, hLt⟩ := plan_good cfg p store fuel hA hF
  refine runLoop_terminates (reqTids p) (plan_PI cfg p store fuel) hCl hLt hL sched _ hfair
    (initRS_live cfg p store fuel) ?_
  have : (yielded (initRS cfg p store fuel)).length = 0 := rfl
  rw [this]; omega

theorem run_terminates (hA : Acyclic p) (hF : FuelOK p fuel) (hL : LimitsPos cfg p) (hfair : Fair sched)
    (hlen : (plan cfg p store fuel).pending.length + 1 ≤ sched.length) :
    (run cfg p store fuel sched).status ≠ .running := by
  show (finish (reqTids p) (loopHead cfg p store fuel sched)).status ≠ .running
  rcases finish_status_cases (reqTids p) (loopHead cfg p store fuel sched) with h | ⟨_, _, r, hr⟩
  · rcases loopHead_done cfg p store fuel sched hA hF hL hfair hlen with h1 | h1
    · rw [h]; exact h1
    · intro hfin
      rw [h] at hfin
      simp only [finish, hfin, h1] at h
      simp at h
  · rw [hr]; simp

theorem run_status_cases :
    (run cfg p store fuel sched).status = .running ∨
    (∃ r, (run cfg p store fuel sched).status = .returned r) ∨
    (∃ t, (run cfg p store fuel sched).status = .raised (.labError t)) := by
  have hc := (reach_all cfg p store fuel sched).1
  rcases finish_status_cases (reqTids p) (loopHead cfg p store fuel sched) with h | ⟨_, _, r, hr⟩
  · have h' : (run cfg p store fuel sched).status = (loopHead cfg p store fuel sched).status := h
    rw [h']
    cases hs : (loopHead cfg p store fuel sched).status with
    | running => left; rfl
    | returned r => exact absurd hs (hc.noRet r)
    | raised e =>
      cases e with
      | keyError => exact absurd hs hc.noKey
      | labError t => right; right; exact ⟨t, rfl⟩
  · right; left; exact ⟨r, hr⟩

theorem loopHead_results (hrun : (loopHead cfg p store fuel sched).status = .running) (d : Tid) (v : Val) :
    (d, v) ∈ (loopHead cfg p store fuel sched).results ↔
      (Ev.yield d (.ok v) ∈ (loopHead cfg p store fuel sched).trace ∧
       (loopHead cfg p store fuel sched).ts.pendDependents d ≠ []) :=
  ((reach_all cfg p store fuel sched).2 hrun).res d v

theorem loopHead_pendDependents (d t : Tid) :
    t ∈ (loopHead cfg p store fuel sched).ts.pendDependents d ↔
      (d ∈ (plan cfg p store fuel).ddeps t ∧ t ∉ yielded (loopHead cfg p store fuel sched)) := by
  rw [(reach_all cfg p store fuel sched).1.ts.mem_pdt, (plan_PI cfg p store fuel).dual]

theorem run_empty_at_return (r : List (Tid × Val)) (h : (run cfg p store fuel sched).status = .returned r) :
    (run cfg p store fuel sched).results = [] := by
  have hreach := reach_all cfg p store fuel sched
  have hc := hreach.1
  have hP := plan_PI cfg p store fuel
  rw [show (run cfg p store fuel sched).results = _ from finish_results _ _]
  rcases finish_status_cases (reqTids p) (loopHead cfg p store fuel sched) with h' | ⟨hrun, hlc, _⟩
  · have : (loopHead cfg p store fuel sched).status = .returned r := by rw [← h']; exact h
    exact absurd this (hc.noRet r)
  · apply List.eq_nil_iff_forall_not_mem.mpr
    rintro ⟨d, v⟩ hdv
    obtain ⟨t, ht⟩ := List.exists_mem_of_ne_nil _ (((hreach.2 hrun).res d v).mp hdv).2
    rw [hc.ts.mem_pdt, hP.dual] at ht
    exact ht.2 ((hc.all_yielded hlc t).mp (hP.depPend t d ht.1))

theorem submitAll_serialQ (hb : cfg.backend = .serial) (l : List Tid) (rs : RS)
    (h : rs.futs = rs.queued.map Job.tid) :
    (submitAll cfg p l rs).futs = (submitAll cfg p l rs).queued.map Job.tid :=
  submitAll_ind (fun rs => rs.futs = rs.queued.map Job.tid)
    (fun _ _ _ _ h => by
      simp only [submitTask, hb, if_true, List.map_append, List.map_cons, List.map_nil, h])
    (fun _ h => h) l rs h

theorem waitSerial_serialQ (req : List Tid) (rs : RS) (hnd : rs.futs.Nodup)
    (h : rs.futs = rs.queued.map Job.tid) :
    (waitSerial cfg p req rs).futs = (waitSerial cfg p req rs).queued.map Job.tid := by
  cases hq : rs.queued with
  | nil => rw [waitSerial_nil cfg p req rs hq]; simpa [hq] using h
  | cons j rest =>
    rw [waitSerial_cons cfg p req rs j rest hq, (processYield_frame ..).2.2.1, processYield_queued]
    show rs.futs.filter (· ≠ j.tid) = rest.map Job.tid
    rw [hq] at h
    rw [h] at hnd ⊢
    simp only [List.map_cons, List.nodup_cons] at hnd
    simp only [List.map_cons, List.filter_cons, ne_eq, not_true_eq_false, decide_false,
      Bool.false_eq_true, if_false]
    exact filter_ne_self _ _ hnd.1

/-- the serial runner's part of (f) in `master_invariant`: the deque is `future_to_task`, and nothing ever
    "runs" in the executor -/
theorem loopHead_serial (hb : cfg.backend = .serial) :
    (loopHead cfg p store fuel sched).futs = (loopHead cfg p store fuel sched).queued.map Job.tid ∧
    (loopHead cfg p store fuel sched).running = [] := by
  have hP := plan_PI cfg p store fuel
  refine ⟨(runLoop_ind (cfg := cfg) (p := p) (req := reqTids p)
    (fun rs => Reach cfg p (plan cfg p store fuel) rs ∧ rs.futs = rs.queued.map Job.tid)
    (fun c rs hrun _ h => ⟨iteration_reach _ hP c h.1 hrun, by
      obtain ⟨hc, _, hst⟩ := submitPhase_reach hP h.1 hrun
      simp only [iteration, hst, hb, if_true]
      exact waitSerial_serialQ cfg p _ _ hc.ndF (submitAll_serialQ cfg p hb _ rs h.2)⟩)
    sched _ ⟨initRS_reach cfg p store fuel, rfl⟩).2, ?_⟩
  exact (serialRunning_stepInv cfg p _ hb).runLoop sched _ rfl

/-- the master invariant (a)–(h), spelled out, at every loop-head state of every run -/
theorem master_invariant (cfg : Config) (p : Problem) (store : Store) (fuel : Nat) (sched : List Choice) :
    let P := plan cfg p store fuel
    let rs := loopHead cfg p store fuel sched
    -- (a) frame
    (rs.ts.ddeps = P.ddeps ∧ rs.ts.instances = P.instances) ∧
    -- (b) pending / active / yielded partition the plan
    (rs.ts.pending.Nodup ∧ rs.ts.active.Nodup ∧ (yielded rs).Nodup ∧
      (∀ t ∈ rs.ts.pending, t ∉ rs.ts.active ∧ t ∉ yielded rs) ∧ (∀ t ∈ rs.ts.active, t ∉ yielded rs) ∧
      (∀ t, t ∈ P.pending ↔ (t ∈ rs.ts.pending ∨ t ∈ rs.ts.active ∨ t ∈ yielded rs))) ∧
    -- (c), (d) the pending dictionaries are the plan minus the yielded tasks
    (∀ t, rs.ts.pendDeps t = (P.ddeps t).filter (· ∉ yielded rs)) ∧
    (∀ d, rs.ts.pendDependents d = (P.pendDependents d).filter (· ∉ yielded rs)) ∧
    -- (e)
    (∀ t ∈ rs.ts.active, rs.ts.pendDeps t = []) ∧
    -- (f) futures vs active tasks vs executor queues
    ((∀ t, t ∈ rs.futs ↔ t ∈ rs.ts.active) ∧ rs.futs.Nodup ∧
      (rs.status = .running → ((rs.queued ++ rs.running).map Job.tid).Perm rs.futs) ∧
      (cfg.backend = .serial → rs.futs = rs.queued.map Job.tid ∧ rs.running = [])) ∧
    -- (g) never KeyError: `complete_task` succeeds on every tracked future
    (rs.status ≠ .raised .keyError ∧ ∀ t ∈ rs.futs, ∃ r, completeTask rs.ts t = some r) ∧
    -- (h) retained results
    (rs.status = .running →
      (∀ d, (∃ v, (d, v) ∈ rs.results) ↔ (d ∈ okYielded rs ∧ rs.ts.pendDependents d ≠ [])) ∧
      (rs.results.map Prod.fst).Nodup) := by
  intro P rs
  have hr := reach_all cfg p store fuel sched
  have hc := hr.1
  refine ⟨⟨hc.ts.ddeps, hc.ts.inst⟩,
    ⟨hc.ts.ndP, hc.ts.ndA, hc.ts.ndY, fun t ht => ⟨hc.ts.disjPA t ht, hc.ts.disjPY t ht⟩, hc.ts.disjAY, hc.ts.cover⟩,
    hc.ts.pd, hc.ts.pdt, hc.ts.active_pd_nil,
    ⟨hc.futsAct, hc.ndF, ?_, loopHead_serial cfg p store fuel sched⟩, ⟨hc.noKey, ?_⟩, ?_⟩
  · intro hrun
    have := (hr.2 hrun).perm
    simpa using this
  · intro t ht
    obtain ⟨s', rem, h, _⟩ := completeTask_TSInv _ (plan_PI cfg p store fuel) _ rs.ts t hc.ts
      ((hc.futsAct t).mp ht)
    exact ⟨_, h⟩
  · intro hrun
    refine ⟨?_, (hr.2 hrun).resNd⟩
    intro d
    simp only [okYielded, mem_okYieldedOf]
    constructor
    · rintro ⟨v, hv⟩
      have := ((hr.2 hrun).res d v).mp hv
      exact ⟨⟨v, this.1⟩, this.2⟩
    · rintro ⟨⟨v, hv⟩, hne⟩
      exact ⟨v, ((hr.2 hrun).res d v).mpr ⟨hv, hne⟩⟩

/-- the two fair choices used by the non-vacuity examples in `Props/` -/
def chooseAll : Choice := ⟨fun _ => true⟩
def chooseFirst : Choice := ⟨fun i => i == 0⟩

theorem fair_replicate (n : Nat) (c : Choice) (h : c.finish 0 = true) : Fair (List.replicate n c) := by
  intro c' hc'
  rw [(List.mem_replicate.mp hc').2]; exact h

end Lt
