import LabtechModel.Proofs.InvDefs
import LabtechModel.Proofs.Workers
/-!
# List, lookup and trace-history lemmas for the whole-run invariant
-/
namespace Lt

theorem lookup_of_mem_nodup (d : Tid) (v : Val) : ∀ (l : List (Tid × Val)),
    (l.map Prod.fst).Nodup → (d, v) ∈ l → lookup d l = some v := by
  intro l
  induction l with
  | nil => intro _ h; simp at h
  | cons kv rest ih =>
    intro hnd hmem
    obtain ⟨k, w⟩ := kv
    simp only [List.map_cons, List.nodup_cons, List.mem_map, not_exists, not_and] at hnd
    simp only [lookup]
    rcases List.mem_cons.mp hmem with h | h
    · simp only [Prod.mk.injEq] at h
      simp [h.1, h.2]
    · rw [if_neg (fun hkd => hnd.1 (d, v) h hkd.symm)]
      exact ih hnd.2 h

theorem lookup_mem (t : Tid) (v : Val) : ∀ (l : List (Tid × Val)), lookup t l = some v → (t, v) ∈ l := by
  intro l
  induction l with
  | nil => intro h; simp [lookup] at h
  | cons kv rest ih =>
    intro h
    obtain ⟨k, w⟩ := kv
    simp only [lookup] at h
    split at h
    · next hk => subst hk; simp at h; subst h; exact List.mem_cons_self
    · exact List.mem_cons_of_mem _ (ih h)

theorem lookup_filter_key (d : Tid) (q : Tid → Bool) (hq : q d = true) : ∀ (l : List (Tid × Val)),
    lookup d (l.filter (fun kv => q kv.1)) = lookup d l := by
  intro l
  induction l with
  | nil => rfl
  | cons kv rest ih =>
    obtain ⟨k, w⟩ := kv
    simp only [List.filter_cons]
    by_cases hk : k = d
    · subst hk; simp [hq, lookup]
    · split
      · simp only [lookup, hk, if_false]; exact ih
      · simp only [lookup, hk, if_false]; exact ih

theorem lookup_filter_ne (t x : Tid) (hx : x ≠ t) : ∀ (l : List (Tid × Val)),
    lookup x (l.filter (fun kv => kv.1 ≠ t)) = lookup x l :=
  lookup_filter_key x (fun k => decide (k ≠ t)) (by simpa using hx)

theorem lookup_cons_filter_self (t : Tid) (v : Val) (l : List (Tid × Val)) :
    lookup t ((t, v) :: l.filter (fun kv => kv.1 ≠ t)) = some v := by
  simp [lookup]

theorem lookup_cons_filter_ne (t x : Tid) (v : Val) (hx : x ≠ t) (l : List (Tid × Val)) :
    lookup x ((t, v) :: l.filter (fun kv => kv.1 ≠ t)) = lookup x l := by
  simp only [lookup, if_neg (fun h : t = x => hx h.symm)]
  exact lookup_filter_ne t x hx l

theorem keys_filter_nodup (l : List (Tid × Val)) (q : Tid × Val → Bool) (h : (l.map Prod.fst).Nodup) :
    ((l.filter q).map Prod.fst).Nodup :=
  (List.filter_sublist.map Prod.fst).nodup h

theorem filter_notin_nil (l : List Nat) : l.filter (· ∉ ([] : List Nat)) = l := by
  induction l with
  | nil => rfl
  | cons a b ih => simp

theorem filter_notin_snoc (l Y : List Nat) (t : Nat) :
    l.filter (· ∉ Y ++ [t]) = (l.filter (· ∉ Y)).filter (· ≠ t) := by
  rw [List.filter_filter]
  apply List.filter_congr
  intro x _
  simp only [List.mem_append, List.mem_singleton, not_or, ne_eq, Bool.decide_and, Bool.and_comm]

theorem filter_ne_self (l : List Nat) (t : Nat) (h : t ∉ l) : l.filter (· ≠ t) = l := by
  rw [List.filter_eq_self]
  intro a ha
  simp only [ne_eq, decide_eq_true_eq]
  intro hat; subst hat; exact h ha

theorem perm_filter_ne (A B F : List Nat) (t : Nat) (hp : (A ++ t :: B).Perm F) (hnd : F.Nodup) :
    (A ++ B).Perm (F.filter (· ≠ t)) := by
  have hnd' := List.nodup_cons.mp ((List.perm_middle.nodup_iff).mp (hp.nodup_iff.mpr hnd))
  rw [List.perm_ext_iff_of_nodup hnd'.2 (hnd.filter _)]
  intro a
  rw [List.mem_filter, ← hp.mem_iff]
  simp only [List.mem_append, List.mem_cons, ne_eq, decide_eq_true_eq]
  constructor
  · intro h
    refine ⟨by grind, fun hat => hnd'.1 (hat ▸ List.mem_append.mpr h)⟩
  · grind

theorem filter_mem_perm (F A : List Nat) (hF : F.Nodup) (hA : A.Nodup) (hsub : ∀ a ∈ A, a ∈ F) :
    (F.filter (· ∈ A)).Perm A := by
  rw [List.perm_ext_iff_of_nodup (hF.filter _) hA]
  intro a
  simp only [List.mem_filter, decide_eq_true_eq]
  exact ⟨fun h => h.2, fun h => ⟨hsub a h, h⟩⟩

theorem nodup_subset_length_le : ∀ (l m : List Nat), l.Nodup → (∀ a ∈ l, a ∈ m) → l.length ≤ m.length :=
  fun _ _ h hs => h.length_le_of_subset hs

/-- the finished and the still running workers partition the running list -/
theorem enum_partition_perm {α} (l : List α) (f : Nat → Bool) :
    ((((enumFrom 0 l).filter (fun ij => f ij.1)).map (·.2)) ++
      (((enumFrom 0 l).filter (fun ij => !f ij.1)).map (·.2))).Perm l := by
  have h := (List.filter_append_perm (fun ij : Nat × α => f ij.1) (enumFrom 0 l)).map (·.2)
  rw [List.map_append, enumFrom_map_snd] at h
  exact h

theorem enum_filter_sublist {α} (l : List α) (q : Nat × α → Bool) :
    (((enumFrom 0 l).filter q).map (·.2)).Sublist l := by
  have h := (List.filter_sublist (p := q) (l := enumFrom 0 l)).map (·.2)
  rw [enumFrom_map_snd] at h
  exact h

/-- events that are neither yields nor submits: appending them changes no ghost set -/
def Quiet (l : List Ev) : Prop := ∀ e ∈ l, evYield e = none ∧ evSubmit e = none

theorem filterMap_none {α β} (f : α → Option β) : ∀ (l : List α), (∀ e ∈ l, f e = none) → l.filterMap f = [] := by
  intro l
  induction l with
  | nil => intro _; rfl
  | cons a b ih =>
    intro h
    rw [List.filterMap_cons, h a List.mem_cons_self]
    exact ih (fun e he => h e (List.mem_cons_of_mem _ he))

theorem filterMap_congr' {α β} (f g : α → Option β) : ∀ (l : List α), (∀ a ∈ l, f a = g a) →
    l.filterMap f = l.filterMap g := by
  intro l
  induction l with
  | nil => intro _; rfl
  | cons a b ih =>
    intro h
    rw [List.filterMap_cons, List.filterMap_cons, h a List.mem_cons_self,
      ih (fun x hx => h x (List.mem_cons_of_mem _ hx))]

theorem yieldedOf_append_ny (tr l : List Ev) (h : ∀ e ∈ l, evYield e = none) :
    yieldedOf (tr ++ l) = yieldedOf tr := by
  simp only [yieldedOf, List.filterMap_append]
  rw [filterMap_none _ l h, List.append_nil]

theorem yieldedOf_append_quiet (tr l : List Ev) (h : Quiet l) : yieldedOf (tr ++ l) = yieldedOf tr :=
  yieldedOf_append_ny tr l (fun e he => (h e he).1)

theorem submittedOf_append_quiet (tr l : List Ev) (h : Quiet l) : submittedOf (tr ++ l) = submittedOf tr := by
  simp only [submittedOf, List.filterMap_append]
  rw [filterMap_none _ l (fun e he => (h e he).2), List.append_nil]

theorem mem_yield_append_ny (tr l : List Ev) (h : ∀ e ∈ l, evYield e = none) (d : Tid) (o : Outcome) :
    Ev.yield d o ∈ tr ++ l ↔ Ev.yield d o ∈ tr := by
  rw [List.mem_append]
  constructor
  · rintro (h1 | h1)
    · exact h1
    · have := h _ h1; simp [evYield] at this
  · exact Or.inl

theorem mem_yield_append_quiet (tr l : List Ev) (h : Quiet l) (d : Tid) (o : Outcome) :
    Ev.yield d o ∈ tr ++ l ↔ Ev.yield d o ∈ tr :=
  mem_yield_append_ny tr l (fun e he => (h e he).1) d o

theorem ranOf_append_noran (tr l : List Ev) (h : ∀ e ∈ l, evRan e = none) : ranOf (tr ++ l) = ranOf tr := by
  simp only [ranOf, List.filterMap_append]
  rw [filterMap_none _ l h, List.append_nil]

theorem quiet_waitEnter (a b : List Tid) : Quiet [Ev.waitEnter a b] := by
  intro e he; simp only [List.mem_singleton] at he; subst he; exact ⟨rfl, rfl⟩

theorem Quiet.sub {l l' : List Ev} (h : Quiet l) (hs : ∀ e ∈ l', e ∈ l) : Quiet l' :=
  fun e he => h e (hs e he)

theorem Quiet.append {l l' : List Ev} (h : Quiet l) (h' : Quiet l') : Quiet (l ++ l') := by
  intro e he
  rcases List.mem_append.mp he with h1 | h1
  · exact h e h1
  · exact h' e h1

theorem yieldedOf_mono (tr l : List Ev) (d : Tid) (h : d ∈ yieldedOf tr) : d ∈ yieldedOf (tr ++ l) := by
  simp only [yieldedOf, List.filterMap_append, List.mem_append]
  exact Or.inl h

theorem submittedOf_mono (tr l : List Ev) (t : Tid) (h : t ∈ submittedOf tr) : t ∈ submittedOf (tr ++ l) := by
  simp only [submittedOf, List.filterMap_append, List.mem_append]
  exact Or.inl h

/-- `Q` holds of every event relative to the trace before it -/
def Hist (Q : List Ev → Ev → Prop) (tr : List Ev) : Prop :=
  ∀ pre e post, tr = pre ++ e :: post → Q pre e

theorem Hist_nil (Q : List Ev → Ev → Prop) : Hist Q [] := by
  intro pre e post h
  cases pre <;> simp at h

theorem Hist.append {Q : List Ev → Ev → Prop} {tr l : List Ev} (h : Hist Q tr)
    (hl : ∀ pre' e post', l = pre' ++ e :: post' → Q (tr ++ pre') e) : Hist Q (tr ++ l) := by
  intro pre e post heq
  rcases List.append_eq_append_iff.mp heq with ⟨as, h1, h2⟩ | ⟨bs, h1, h2⟩
  · subst h1; exact hl as e post h2
  · cases bs with
    | nil =>
      simp only [List.nil_append, List.append_nil] at h1 h2
      subst h1
      have := hl [] e post h2.symm
      simpa using this
    | cons b bs =>
      simp only [List.cons_append, List.cons.injEq] at h2
      obtain ⟨hb, _⟩ := h2
      subst hb
      exact h pre e bs h1

theorem Hist.append_of_mem {Q : List Ev → Ev → Prop} {tr l : List Ev} (h : Hist Q tr)
    (hl : ∀ e ∈ l, ∀ pre', (∀ x ∈ pre', x ∈ l) → Q (tr ++ pre') e) : Hist Q (tr ++ l) := by
  apply h.append
  intro pre' e post' heq
  apply hl
  · rw [heq]; simp
  · intro x hx; rw [heq]; simp [hx]

theorem Hist.snoc {Q : List Ev → Ev → Prop} {tr : List Ev} {e : Ev} (h : Hist Q tr) (he : Q tr e) :
    Hist Q (tr ++ [e]) := by
  apply h.append
  intro pre' e' post' heq
  cases pre' with
  | nil =>
    simp only [List.nil_append, List.cons.injEq] at heq
    rw [← heq.1]; simpa using he
  | cons a b =>
    simp only [List.cons_append, List.cons.injEq] at heq
    have := heq.2
    cases b <;> simp at this

theorem Hist.append_trivial {Q : List Ev → Ev → Prop} {tr l : List Ev} (h : Hist Q tr)
    (hl : ∀ e ∈ l, ∀ pre, Q pre e) : Hist Q (tr ++ l) :=
  h.append_of_mem (fun e he _ _ => hl e he _)

end Lt
