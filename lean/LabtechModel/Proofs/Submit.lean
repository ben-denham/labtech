import LabtechModel.Proofs.Workers
namespace Lt

/-- the submit phase starts *every* task `get_ready_tasks` returned: closed form of the scheduler
    state after it -/
theorem submitAll_all (cfg : Config) (p : Problem) :
    ∀ (l : List Tid) (rs : RS), l.Nodup → (∀ t ∈ l, t ∈ rs.ts.pending) →
      (submitAll cfg p l rs).ts = { rs.ts with pending := rs.ts.pending.filter (· ∉ l),
                                               active := rs.ts.active ++ l } ∧
      (submitAll cfg p l rs).status = rs.status := by
  intro l
  induction l with
  | nil =>
    intro rs _ _
    have : rs.ts.pending.filter (fun _ => true) = rs.ts.pending := by simp
    simp [submitAll, this]
  | cons t ts ih =>
    intro rs hnd hmem
    have hnd' := List.nodup_cons.mp hnd
    simp only [submitAll, startTask_eq rs.ts t (hmem t List.mem_cons_self)]
    have := ih (submitTask cfg p { rs with ts := startedTS rs.ts t } t) hnd'.2 (by
      intro x hx
      rw [submitTask_ts]
      simp only [List.mem_filter, decide_eq_true_eq]
      exact ⟨hmem x (List.mem_cons_of_mem _ hx), fun hxt => hnd'.1 (hxt ▸ hx)⟩)
    rw [this.1, this.2, submitTask_ts, submitTask_status]
    refine ⟨?_, rfl⟩
    simp only [List.filter_filter, List.append_assoc, List.singleton_append]
    congr 1
    apply List.filter_congr
    intro x _
    simp only [List.mem_cons, not_or, ne_eq, decide_not]
    grind

theorem startProcesses_no_idle (cfg : Config) (rs : RS) (h : rs.running.length ≤ cfg.maxWorkers) :
    (startProcesses cfg rs).queued = [] ∨ (startProcesses cfg rs).running.length = cfg.maxWorkers := by
  have h1 := startProcesses_running_length cfg rs
  have h2 := congrArg List.length (takeN_append (cfg.maxWorkers - rs.running.length) rs.queued)
  have h3 := takeN_length_min (cfg.maxWorkers - rs.running.length) rs.queued
  have hq : (startProcesses cfg rs).queued = (takeN (cfg.maxWorkers - rs.running.length) rs.queued).2 := by
    simp [startProcesses]
  rw [hq, h1, ← List.length_eq_zero_iff]
  rw [List.length_append] at h2
  omega

end Lt
