import LabtechModel.Proofs.LinkNeeded
/-!
# Link scheduler model ↔ history model, part 2: the history model's run in closed form

`specRun_closed`: the dependency-first fold `Store.specRun` over `Store.neededFrom` equals, field by
field, the closed form `CF` written with the scheduler side's failure-aware reference evaluation
`refEvalF` of the translated problem:
* `vals`   — every needed task `t` with `refEvalF t` (`none` = failed), last processed first;
* `execd`  — the needed tasks that are not served from the cache;
* `loaded` — the needed tasks that are, with their stored entry;
* `map`    — the pre-state overridden by this run's entry `(refEvalF t, metaStart g t, metaDur g t)`
             for exactly the needed, not cached, persisting tasks that have a reference value.
-/
namespace Lt.Link
open Lt

/-- the scheduler's store holds, for every task, the value of the entry the map holds -/
def StoreRel (m : Store.AMap) (st : Store) : Prop := ∀ t, lookup t st = (m t).map (fun s => s.val)

/-- the map only has entries of tasks that persist (their type has a cache, the Lab a storage) -/
def MapOK (U : Store.Universe) (m : Store.AMap) : Prop := ∀ t, (m t).isSome = true → Store.persists U t = true

/-- the scheduler side's reference value of a task of the translated problem -/
def ref (U : Store.Universe) (mp : Nat → Option Nat) (g : Nat) (fl req : List Tid) (cfg : Config) (st : Store)
    (t : Tid) : Option Val := refEvalF cfg (toProblem U mp g fl req) st id t

def ucOf (cfg : Config) (m : Store.AMap) (t : Tid) : Bool := !cfg.bust && (m t).isSome

/-- the entry run `g` writes for `t` when `run()` returned `v` -/
def entryOf (g : Nat) (t : Tid) (v : Val) : Store.Stored :=
  { val := v, start := Store.metaStart g t, dur := Store.metaDur g t }

/-! The closed form, for any assignment `r` of results to tasks; `specRun_closed` puts `ref` for `r`. -/
section closed
variable (U : Store.Universe) (g : Nat) (fl : List Tid) (cfg : Config) (m : Store.AMap) (r : Tid → Option Val)

def cfMap (l : List Tid) : Store.AMap := fun x =>
  if x ∈ l ∧ ucOf cfg m x = false ∧ Store.persists U x = true then
    match r x with
    | some v => some (entryOf g x v)
    | none => m x
  else m x

theorem cfMap_apply (l : List Tid) (x : Tid) :
    cfMap U g cfg m r l x =
      if x ∈ l ∧ ucOf cfg m x = false ∧ Store.persists U x = true then
        match r x with
        | some v => some (entryOf g x v)
        | none => m x
      else m x := rfl

def cfVals (l : List Tid) : List (Tid × Option Val) := (l.map (fun t => (t, r t))).reverse
def cfExecd (l : List Tid) : List Tid := (l.filter (fun t => !ucOf cfg m t)).reverse
def cfLoaded (l : List Tid) : List (Tid × Store.Stored) :=
  (l.filterMap (fun t => if ucOf cfg m t then (m t).map (fun s => (t, s)) else none)).reverse

def CF (l : List Tid) : Store.AAcc :=
  { map := cfMap U g cfg m r l, vals := cfVals r l, execd := cfExecd cfg m l, loaded := cfLoaded cfg m l }

theorem CF_map (l : List Tid) : (CF U g cfg m r l).map = cfMap U g cfg m r l := rfl
theorem CF_vals (l : List Tid) : (CF U g cfg m r l).vals = cfVals r l := rfl
theorem CF_execd (l : List Tid) : (CF U g cfg m r l).execd = cfExecd cfg m l := rfl
theorem CF_loaded (l : List Tid) : (CF U g cfg m r l).loaded = cfLoaded cfg m l := rfl

theorem lookupV_cfVals (l : List Tid) (d : Tid) :
    Store.lookupV d (cfVals r l) = if d ∈ l then some (r d) else none := by
  have key : ∀ (l : List Tid), Store.lookupV d (l.map (fun t => (t, r t))) = if d ∈ l then some (r d) else none := by
    intro l
    induction l with
    | nil => rfl
    | cons a l ih => by_cases h : a = d <;> simp_all [Store.lookupV, eq_comm]
  rw [cfVals, ← List.map_reverse, key]
  simp

theorem CF_nil : CF U g cfg m r [] = { map := m } := by
  simp only [CF, cfVals, cfExecd, cfLoaded]
  congr 1

theorem cfMap_snoc (l : List Tid) (t : Tid) (hnt : t ∉ l) :
    cfMap U g cfg m r (l ++ [t]) =
      if ucOf cfg m t = false ∧ Store.persists U t = true then
        match r t with
        | some v => Store.aUpdate (cfMap U g cfg m r l) t (entryOf g t v)
        | none => cfMap U g cfg m r l
      else cfMap U g cfg m r l := by
  funext x
  by_cases hx : x = t
  · subst hx
    by_cases hc : ucOf cfg m x = false ∧ Store.persists U x = true
    · rw [if_pos hc]
      cases hr : r x <;> simp [cfMap_apply, hc, hr, hnt, Store.aUpdate]
    · rw [if_neg hc]; simp [cfMap_apply, hc, hnt]
  · have h1 : cfMap U g cfg m r (l ++ [t]) x = cfMap U g cfg m r l x := by
      simp [cfMap_apply, hx]
    rw [h1]
    split
    · split
      · simp [Store.aUpdate, hx]
      · rfl
    · rfl

theorem cfVals_snoc (l : List Tid) (t : Tid) : cfVals r (l ++ [t]) = (t, r t) :: cfVals r l := by
  simp [cfVals]

theorem cfExecd_snoc (l : List Tid) (t : Tid) :
    cfExecd cfg m (l ++ [t]) = if ucOf cfg m t then cfExecd cfg m l else t :: cfExecd cfg m l := by
  cases h : ucOf cfg m t <;> simp [cfExecd, List.filter_append, h]

theorem cfLoaded_snoc (l : List Tid) (t : Tid) :
    cfLoaded cfg m (l ++ [t]) =
      if ucOf cfg m t then ((m t).map fun s => (t, s)).toList ++ cfLoaded cfg m l else cfLoaded cfg m l := by
  cases h : ucOf cfg m t <;> cases hm : m t <;> simp [cfLoaded, List.filterMap_append, h, hm]

/-- one planned task, processed after the list `l`: a cached task has its stored value as result, any
    other the value `run()` computes from the results recorded so far -/
theorem stepA_CF (l : List Tid) (t : Tid) (hnt : t ∉ l)
    (hload : ucOf cfg m t = true → r t = (m t).map (fun s => s.val))
    (hrun : ucOf cfg m t = false → Store.runTask U g fl (cfVals r l) t = r t) :
    Store.stepA U cfg.bust g fl (CF U g cfg m r l) t = CF U g cfg m r (l ++ [t]) := by
  have hmt : (CF U g cfg m r l).map t = m t := by
    simp [CF, cfMap_apply, hnt]
  cases huc : ucOf cfg m t with
  | true =>
    have hb : cfg.bust = false := by
      simp only [ucOf, Bool.and_eq_true, Bool.not_eq_true'] at huc; exact huc.1
    obtain ⟨s, hs⟩ : ∃ s, m t = some s := by
      simp only [ucOf, Bool.and_eq_true] at huc
      exact Option.isSome_iff_exists.mp huc.2
    have hun := hload huc
    rw [hs] at hun
    unfold Store.stepA
    rw [hb, hmt, hs]
    simp [CF, cfMap_snoc U g cfg m r l t hnt, cfVals_snoc, cfExecd_snoc, cfLoaded_snoc, huc, hs, hun]
  | false =>
    have hnone : (if cfg.bust = true then none else (CF U g cfg m r l).map t) = none := by
      rw [hmt]
      cases hb : cfg.bust <;> cases hm : m t <;> simp_all [ucOf]
    unfold Store.stepA
    rw [hnone]
    simp only [CF_vals, hrun huc]
    simp only [CF, cfMap_snoc U g cfg m r l t hnt, cfVals_snoc, cfExecd_snoc, cfLoaded_snoc]
    cases r t with
    | some v => cases Store.persists U t <;> simp [huc, entryOf]
    | none => simp [huc]

end closed

section spec
variable (U : Store.Universe) (mp : Nat → Option Nat) (g : Nat) (fl req : List Tid)
  (cfg : Config) (m : Store.AMap) (st : Store)

theorem ucOf_eq (hrel : StoreRel m st) (hmap : MapOK U m) (t : Tid) :
    useCache cfg (toProblem U mp g fl req) st t = ucOf cfg m t := by
  unfold useCache ucOf
  rw [toProblem_cacheable, hrel t]
  have := hmap t
  cases hm : m t with
  | none => simp
  | some s => rw [hm] at this; simp [this]

variable (hU : UOK U req) (hrel : StoreRel m st) (hmap : MapOK U m)
include hU hrel hmap

theorem ref_unfold (t : Tid) :
    ref U mp g fl req cfg st t =
      if ucOf cfg m t then (m t).map (fun s => s.val)
      else if (toProblem U mp g fl req).fails t then none
      else (toProblem U mp g fl req).behave t ((U.deps t).map (ref U mp g fl req cfg st)) := by
  have H := toProblem_refHypF U mp g fl req hU
  have h := refEvalF_unfold cfg (toProblem U mp g fl req) st id H.acyc H.objOK t
  -- in the translated problem no worker dies, `tidOf = id` and `children = U.deps`
  rw [show diesIn cfg (toProblem U mp g fl req) ((toProblem U mp g fl req).tidOf t) = false from
      toProblem_diesIn U mp g fl req cfg _,
    show (toProblem U mp g fl req).tidOf t = t from rfl,
    show ((toProblem U mp g fl req).children (id t)).map (toProblem U mp g fl req).tidOf = U.deps t from
      List.map_id _,
    ucOf_eq U mp g fl req cfg m st hrel hmap t, hrel t] at h
  simp only [Bool.false_eq_true, if_false] at h
  exact h

theorem ref_run (l : List Tid) (t : Tid) (huc : ucOf cfg m t = false) (hdeps : ∀ d ∈ U.deps t, d ∈ l) :
    Store.runTask U g fl (cfVals (ref U mp g fl req cfg st) l) t = ref U mp g fl req cfg st t := by
  have hun := ref_unfold U mp g fl req cfg m st hU hrel hmap t
  rw [huc] at hun
  simp only [Bool.false_eq_true, if_false] at hun
  rw [runTask_eq U mp g fl req, hun]
  have : (U.deps t).map (fun d => (Store.lookupV d (cfVals (ref U mp g fl req cfg st) l)).getD none)
      = (U.deps t).map (ref U mp g fl req cfg st) := by
    apply List.map_congr_left
    intro d hd
    rw [lookupV_cfVals, if_pos (hdeps d hd)]
    rfl
  rw [this]

theorem fold_CF : ∀ (l₂ l₁ : List Tid), (l₁ ++ l₂).Pairwise (· < ·) →
    (∀ t ∈ l₁ ++ l₂, ucOf cfg m t = false → ∀ d ∈ U.deps t, d ∈ l₁ ++ l₂) →
    l₂.foldl (Store.stepA U cfg.bust g fl) (CF U g cfg m (ref U mp g fl req cfg st) l₁) = CF U g cfg m (ref U mp g fl req cfg st) (l₁ ++ l₂) := by
  intro l₂
  induction l₂ with
  | nil => intro l₁ _ _; simp
  | cons t l₂ ih =>
    intro l₁ hp hcl
    have hp' := List.pairwise_append.mp hp
    have hlt : ∀ a ∈ l₁, a < t := fun a ha => hp'.2.2 a ha t List.mem_cons_self
    have hgt : ∀ b ∈ l₂, t < b := fun b hb => (List.pairwise_cons.mp hp'.2.1).1 b hb
    have hnt : t ∉ l₁ := fun h => Nat.lt_irrefl _ (hlt t h)
    have hdeps : ucOf cfg m t = false → ∀ d ∈ U.deps t, d ∈ l₁ := by
      intro huc d hd
      have hdt : d < t := hU.down t d hd
      have := hcl t (by simp) huc d hd
      rcases List.mem_append.mp this with h | h
      · exact h
      · rcases List.mem_cons.mp h with h | h
        · subst h; exact absurd hdt (Nat.lt_irrefl _)
        · exact absurd (Nat.lt_trans (hgt d h) hdt) (Nat.lt_irrefl _)
    simp only [List.foldl_cons]
    rw [stepA_CF U g fl cfg m _ l₁ t hnt
      (fun huc => by rw [ref_unfold U mp g fl req cfg m st hU hrel hmap t, if_pos huc])
      (fun huc => ref_run U mp g fl req cfg m st hU hrel hmap l₁ t huc (hdeps huc))]
    have hassoc : l₁ ++ t :: l₂ = (l₁ ++ [t]) ++ l₂ := by simp
    rw [hassoc] at hp hcl ⊢
    exact ih (l₁ ++ [t]) hp hcl

theorem specRun_closed :
    Store.specRun U cfg.bust g fl req m =
      CF U g cfg m (ref U mp g fl req cfg st) (Store.neededFrom U (ucOf cfg m) req) := by
  obtain ⟨hpw, hmem⟩ := neededFrom_spec U (ucOf cfg m) req hU
  have h := fold_CF U mp g fl req cfg m st hU hrel hmap (Store.neededFrom U (ucOf cfg m) req) []
    (by simpa using hpw)
    (by
      intro t ht huc d hd
      simp only [List.nil_append] at ht ⊢
      exact (hmem d).mpr (Needed.dep ((hmem t).mp ht) huc hd))
  rw [CF_nil] at h
  simp only [List.nil_append] at h
  exact h

end spec

end Lt.Link
