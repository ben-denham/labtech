import LabtechModel.Proofs.IntrBasic
/-!
# M10: an invariant that holds between any two primitives

`Always Q ps s`: `Q` holds in `s` and after every prefix of `ps` executed from `s`.
`KR`: the part of the master invariant that survives in the middle of an iteration and that the
interrupt handler needs: tracked futures are active tasks, and for every task that is pending or
active the two directions of the dependency dictionaries agree, so that `complete_task` finds
everything it removes.
`stepPrim_frame`: which fields each primitive leaves alone, for all field groups in one sweep over the
primitives; the per-field lemmas `applyPrim_ts` .. `applyPrim_w` are its projections (the groups of the store,
of `alive` / `terminated` and of the trace are projected where they are used).
-/
namespace Lt

variable {cfg : Config} {p : Problem}

def Always (cfg : Config) (p : Problem) (Q : IS → Prop) : List Prim → IS → Prop
  | [], s => Q s
  | q :: ps, s => Q s ∧ Always cfg p Q ps (applyPrim cfg p q s)

theorem Always.head {Q : IS → Prop} {ps : List Prim} {s : IS} (h : Always cfg p Q ps s) : Q s := by
  cases ps with
  | nil => exact h
  | cons q ps => exact h.1

theorem always_append {Q : IS → Prop} : ∀ (a b : List Prim) (s : IS),
    Always cfg p Q (a ++ b) s ↔ Always cfg p Q a s ∧ Always cfg p Q b (runPrims cfg p a s) := by
  intro a
  induction a with
  | nil =>
    intro b s
    simp only [List.nil_append, runPrims_nil, Always]
    exact ⟨fun h => ⟨h.head, h⟩, fun h => h.2⟩
  | cons q a ih =>
    intro b s
    simp only [List.cons_append, Always, runPrims_cons, ih]
    exact ⟨fun h => ⟨⟨h.1, h.2.1⟩, h.2.2⟩, fun h => ⟨h.1.1, h.1.2, h.2⟩⟩

theorem Always.last {Q : IS → Prop} : ∀ {ps : List Prim} {s : IS}, Always cfg p Q ps s →
    Q (runPrims cfg p ps s) := by
  intro ps
  induction ps with
  | nil => intro s h; exact h
  | cons q ps ih => intro s h; exact ih h.2

theorem Always.take {Q : IS → Prop} : ∀ {ps : List Prim} {s : IS}, Always cfg p Q ps s →
    ∀ k, Always cfg p Q (ps.take k) s := by
  intro ps
  induction ps with
  | nil => intro s h k; simpa using h
  | cons q ps ih =>
    intro s h k
    cases k with
    | zero => exact h.1
    | succ k => exact ⟨h.1, ih h.2 k⟩

theorem Always.prefix {Q : IS → Prop} {ps : List Prim} {s : IS} (h : Always cfg p Q ps s) (k : Nat) :
    Q (runPrims cfg p (ps.take k) s) := (h.take k).last

theorem Always.mono {Q R : IS → Prop} (hQR : ∀ s, Q s → R s) : ∀ {ps : List Prim} {s : IS},
    Always cfg p Q ps s → Always cfg p R ps s := by
  intro ps
  induction ps with
  | nil => intro s h; exact hQR _ h
  | cons q ps ih => intro s h; exact ⟨hQR _ h.1, ih h.2⟩

theorem always_stopped {Q : IS → Prop} (ps : List Prim) (s : IS) (h : s.rs.status ≠ .running) (hq : Q s) :
    Always cfg p Q ps s := by
  induction ps with
  | nil => exact hq
  | cons q ps ih => exact ⟨hq, by rw [applyPrim_stopped q s h]; exact ih⟩

theorem always_of_step {I : IS → Prop} : ∀ (ps : List Prim) (s : IS),
    (∀ q ∈ ps, ∀ s, I s → I (applyPrim cfg p q s)) → I s → Always cfg p I ps s := by
  intro ps
  induction ps with
  | nil => intro s _ h; exact h
  | cons q ps ih =>
    intro s hq h
    exact ⟨h, ih _ (fun q' hq' => hq q' (List.mem_cons_of_mem _ hq')) (hq q List.mem_cons_self s h)⟩

theorem runPrims_keep {α} (f : IS → α) (ps : List Prim) (s : IS)
    (h : ∀ q ∈ ps, ∀ s, f (applyPrim cfg p q s) = f s) : f (runPrims cfg p ps s) = f s :=
  (always_of_step (I := fun s' => f s' = f s) ps s (fun q hq s' e => (h q hq s').trans e) rfl).last

def Prim.touchesTS : Prim → Bool
  | .startTask _ | .removeActive _ | .unblockOne _ _ | .releaseOne _ _ => true
  | _ => false

def Prim.touchesFuts : Prim → Bool
  | .regFuture _ | .serialAppend _ | .popFuture _ _ | .clearDeque => true
  | _ => false

def Prim.touchesStatus : Prim → Bool
  | .startTask _ | .removeActive _ | .unblockOne _ _ | .releaseOne _ _ | .popFuture _ _
  | .raiseLabError _ => true
  | _ => false

def Prim.touchesQueued : Prim → Bool
  | .enqueue _ | .unregPending _ | .serialAppend _ | .popDeque | .cancelOne _ | .clearDeque => true
  | _ => false

/-- the store and the serial runner's locals -/
def Prim.touchesStore : Prim → Bool
  | .consumeResults _ | .serialSaveBegin | .serialSaveEnd | .popDeque | .serialRun => true
  | _ => false

/-- primitives that touch the executor's / runner's tracking fields -/
def Prim.touchesExec : Prim → Bool
  | .consumeResults _ | .markDead _ | .popFuture _ _ | .cancelOne _ | .clearDeque | .stopOne _ | .popDeque
  | .enqueue _ | .procStart _ | .regRunning _ | .unregPending _ | .regFuture _ | .serialAppend _ => true
  | _ => false

/-- who is alive and who was terminated -/
def Prim.touchesAlive : Prim → Bool
  | .procStart _ | .consumeResults _ | .stopOne _ => true
  | _ => false

/-- primitives that touch the live workers, the running map or the zombies -/
def Prim.touchesW : Prim → Bool
  | .consumeResults _ | .markDead _ | .procStart _ | .regRunning _ | .stopOne _ => true
  | _ => false

def Prim.touchesTrace : Prim → Bool
  | .enqueue _ | .procStart _ | .serialAppend _ | .consumeResults _ | .popFuture _ _ | .removeDone _ | .popDeque
  | .serialRun => true
  | _ => false

/-- what each primitive leaves alone, in one sweep over the primitives: the eleven whose step branches are
    split once for all fields, the others compute -/
theorem stepPrim_frame (q : Prim) (s : IS) :
    (q.touchesTS = false → (stepPrim cfg p q s).rs.ts = s.rs.ts) ∧
    (q.touchesFuts = false → (stepPrim cfg p q s).rs.futs = s.rs.futs) ∧
    (q.touchesStatus = false → (stepPrim cfg p q s).rs.status = s.rs.status) ∧
    (q.touchesQueued = false → (stepPrim cfg p q s).rs.queued = s.rs.queued) ∧
    (q.touchesStore = false → (stepPrim cfg p q s).rs.store = s.rs.store ∧
      (stepPrim cfg p q s).cur = s.cur ∧ (stepPrim cfg p q s).curOut = s.curOut) ∧
    (q.touchesExec = false → (stepPrim cfg p q s).rs.running = s.rs.running ∧
      (stepPrim cfg p q s).alive = s.alive ∧ (stepPrim cfg p q s).rs.futs = s.rs.futs ∧
      (stepPrim cfg p q s).cancelled = s.cancelled ∧ (stepPrim cfg p q s).done = s.done ∧
      (stepPrim cfg p q s).zombies = s.zombies ∧ (stepPrim cfg p q s).rs.queued = s.rs.queued ∧
      (stepPrim cfg p q s).terminated = s.terminated) ∧
    (q.touchesAlive = false → (stepPrim cfg p q s).alive = s.alive ∧
      (stepPrim cfg p q s).terminated = s.terminated) ∧
    (q.touchesTrace = false → (stepPrim cfg p q s).rs.trace = s.rs.trace) ∧
    (q.touchesW = false → (stepPrim cfg p q s).alive = s.alive ∧
      (stepPrim cfg p q s).rs.running = s.rs.running ∧ (stepPrim cfg p q s).zombies = s.zombies) := by
  cases q
  case startTask | regRunning | markDead | popFuture | removeActive | unblockOne | releaseOne | popDeque
      | serialRun | serialSaveBegin | serialSaveEnd =>
    dsimp only [stepPrim] <;> (repeat' split) <;> refine ⟨?_, ?_, ?_, ?_, ?_, ?_, ?_, ?_, ?_⟩ <;>
      first | (intro h; exact Bool.noConfusion h) | (intro _; repeat' constructor)
  all_goals refine ⟨?_, ?_, ?_, ?_, ?_, ?_, ?_, ?_, ?_⟩ <;>
    first | (intro h; exact Bool.noConfusion h) | (intro _; repeat' constructor)

/-- a fact about a step that holds trivially of no step is a fact about `applyPrim` -/
theorem applyPrim_of_step {R : IS → IS → Prop} (q : Prim) (s : IS) (refl : R s s)
    (step : R s (stepPrim cfg p q s)) : R s (applyPrim cfg p q s) := by
  unfold applyPrim
  split
  · exact step
  · exact refl

theorem applyPrim_ts (q : Prim) (s : IS) (h : q.touchesTS = false) :
    (applyPrim cfg p q s).rs.ts = s.rs.ts :=
  applyPrim_of_step (R := fun s s' => s'.rs.ts = s.rs.ts) q s rfl ((stepPrim_frame q s).1 h)

theorem applyPrim_futs (q : Prim) (s : IS) (h : q.touchesFuts = false) :
    (applyPrim cfg p q s).rs.futs = s.rs.futs :=
  applyPrim_of_step (R := fun s s' => s'.rs.futs = s.rs.futs) q s rfl ((stepPrim_frame q s).2.1 h)

theorem applyPrim_status (q : Prim) (s : IS) (h : q.touchesStatus = false) :
    (applyPrim cfg p q s).rs.status = s.rs.status :=
  applyPrim_of_step (R := fun s s' => s'.rs.status = s.rs.status) q s rfl ((stepPrim_frame q s).2.2.1 h)

theorem applyPrim_queued (q : Prim) (s : IS) (h : q.touchesQueued = false) :
    (applyPrim cfg p q s).rs.queued = s.rs.queued :=
  applyPrim_of_step (R := fun s s' => s'.rs.queued = s.rs.queued) q s rfl ((stepPrim_frame q s).2.2.2.1 h)

theorem applyPrim_exec (q : Prim) (s : IS) (h : q.touchesExec = false) :
    (applyPrim cfg p q s).rs.running = s.rs.running ∧ (applyPrim cfg p q s).alive = s.alive ∧
    (applyPrim cfg p q s).rs.futs = s.rs.futs ∧ (applyPrim cfg p q s).cancelled = s.cancelled ∧
    (applyPrim cfg p q s).done = s.done ∧ (applyPrim cfg p q s).zombies = s.zombies ∧
    (applyPrim cfg p q s).rs.queued = s.rs.queued ∧ (applyPrim cfg p q s).terminated = s.terminated :=
  applyPrim_of_step (R := fun s s' => s'.rs.running = s.rs.running ∧ s'.alive = s.alive ∧
    s'.rs.futs = s.rs.futs ∧ s'.cancelled = s.cancelled ∧ s'.done = s.done ∧ s'.zombies = s.zombies ∧
    s'.rs.queued = s.rs.queued ∧ s'.terminated = s.terminated) q s
    ⟨rfl, rfl, rfl, rfl, rfl, rfl, rfl, rfl⟩ ((stepPrim_frame q s).2.2.2.2.2.1 h)

theorem applyPrim_w (q : Prim) (s : IS) (h : q.touchesW = false) :
    (applyPrim cfg p q s).alive = s.alive ∧ (applyPrim cfg p q s).rs.running = s.rs.running ∧
    (applyPrim cfg p q s).zombies = s.zombies :=
  applyPrim_of_step (R := fun s s' => s'.alive = s.alive ∧ s'.rs.running = s.rs.running ∧ s'.zombies = s.zombies)
    q s ⟨rfl, rfl, rfl⟩ ((stepPrim_frame q s).2.2.2.2.2.2.2.2 h)

theorem applyPrim_store (q : Prim) (s : IS) (h : q.touchesStore = false) :
    (applyPrim cfg p q s).rs.store = s.rs.store ∧ (applyPrim cfg p q s).cur = s.cur ∧
    (applyPrim cfg p q s).curOut = s.curOut :=
  applyPrim_of_step (R := fun s s' => s'.rs.store = s.rs.store ∧ s'.cur = s.cur ∧ s'.curOut = s.curOut) q s
    ⟨rfl, rfl, rfl⟩ ((stepPrim_frame q s).2.2.2.2.1 h)

theorem stepPrim_alive (q : Prim) (s : IS) (h : q.touchesAlive = false) :
    (stepPrim cfg p q s).alive = s.alive ∧ (stepPrim cfg p q s).terminated = s.terminated :=
  (stepPrim_frame q s).2.2.2.2.2.2.1 h

theorem stepPrim_trace (q : Prim) (s : IS) (h : q.touchesTrace = false) :
    (stepPrim cfg p q s).rs.trace = s.rs.trace :=
  (stepPrim_frame q s).2.2.2.2.2.2.2.1 h

theorem stepPrim_status (q : Prim) (s : IS) :
    (stepPrim cfg p q s).rs.status = s.rs.status ∨ (stepPrim cfg p q s).rs.status = .raised .keyError ∨
      ∃ t, q = .raiseLabError t := by
  by_cases h : q.touchesStatus = false
  · exact Or.inl ((stepPrim_frame q s).2.2.1 h)
  · cases q
    case raiseLabError t => exact Or.inr (Or.inr ⟨t, rfl⟩)
    case startTask | removeActive | unblockOne | releaseOne | popFuture =>
      dsimp only [stepPrim] <;> split <;> first | exact Or.inl rfl | exact Or.inr (Or.inl rfl)
    all_goals exact absurd rfl h

def Prim.quiet (q : Prim) : Bool := !q.touchesTS && !q.touchesFuts && !q.touchesStatus

theorem quiet_parts {q : Prim} (h : q.quiet = true) :
    q.touchesTS = false ∧ q.touchesFuts = false ∧ q.touchesStatus = false := by
  simp only [Prim.quiet, Bool.and_eq_true, Bool.not_eq_true'] at h
  exact ⟨h.1.1, h.1.2, h.2⟩

/-- a predicate of the scheduler dictionaries, the tracked futures and the status only -/
def coreP (R : TS → List Tid → Status → Prop) (s : IS) : Prop := R s.rs.ts s.rs.futs s.rs.status

theorem always_quiet (R : TS → List Tid → Status → Prop) (ps : List Prim) (s : IS)
    (hq : ∀ q ∈ ps, q.quiet = true) : coreP R s → Always cfg p (coreP R) ps s :=
  always_of_step ps s (fun q hq' s h => by
    obtain ⟨h1, h2, h3⟩ := quiet_parts (hq q hq')
    rw [coreP, applyPrim_ts q s h1, applyPrim_futs q s h2, applyPrim_status q s h3]
    exact h)

structure KR (ts : TS) (futs : List Tid) : Prop where
  ndF : futs.Nodup
  futAct : ∀ t ∈ futs, t ∈ ts.active
  ndA : ts.active.Nodup
  ndP : ts.pending.Nodup
  disj : ∀ t ∈ ts.pending, t ∉ ts.active
  sym1 : ∀ t, (t ∈ ts.active ∨ t ∈ ts.pending) → ∀ d ∈ ts.pendDependents t, t ∈ ts.pendDeps d
  sym2 : ∀ t, (t ∈ ts.active ∨ t ∈ ts.pending) → ∀ d ∈ ts.ddeps t, t ∈ ts.pendDependents d
  ndDd : ∀ t, (ts.ddeps t).Nodup
  ndPdt : ∀ d, (ts.pendDependents d).Nodup

/-- holds between any two primitives of any run, interrupted or not -/
def K : IS → Prop := coreP (fun ts futs st => KR ts futs ∧ st ≠ .raised .keyError)

def KRun : IS → Prop := coreP (fun ts futs st => KR ts futs ∧ st = .running)

theorem KRun.k {s : IS} (h : KRun s) : K s := ⟨h.1, by rw [h.2]; simp⟩
theorem KRun.run {s : IS} (h : KRun s) : s.rs.status = .running := h.2

theorem mem_filter_ne {l : List Nat} {x t : Nat} : x ∈ l.filter (· ≠ t) ↔ x ∈ l ∧ x ≠ t := by
  simp

theorem step_startTask (s : IS) (t : Tid) (h : KRun s) (ht : t ∈ s.rs.ts.pending) :
    let s' := applyPrim cfg p (Prim.startTask t) s
    KRun s' ∧ t ∈ s'.rs.ts.active ∧ t ∉ s'.rs.futs ∧
      (∀ x ∈ s.rs.ts.pending, x ≠ t → x ∈ s'.rs.ts.pending) := by
  obtain ⟨hk, hrun⟩ := h
  have hrun' : s.rs.status = .running := hrun
  simp only [applyPrim_running _ _ hrun', stepPrim, startTask, setRemove, ht, if_true]
  have htf : t ∉ s.rs.futs := fun hf => hk.disj t ht (hk.futAct t hf)
  refine ⟨⟨?_, hrun⟩, by simp, htf, fun x hx hxt => by simp [hx, hxt]⟩
  -- active or pending afterwards was active or pending before
  have old : ∀ x, (x ∈ s.rs.ts.active ++ [t] ∨ x ∈ s.rs.ts.pending.filter (· ≠ t)) →
      x ∈ s.rs.ts.active ∨ x ∈ s.rs.ts.pending := by
    intro x hx
    simp only [List.mem_append, List.mem_singleton, List.mem_filter] at hx
    rcases hx with (hx | hx) | hx
    · exact Or.inl hx
    · exact Or.inr (hx ▸ ht)
    · exact Or.inr hx.1
  exact { hk with
    futAct := fun x hx => List.mem_append_left _ (hk.futAct x hx)
    ndA := by
      rw [List.nodup_append]
      refine ⟨hk.ndA, by simp, ?_⟩
      intro a ha b hb
      simp only [List.mem_singleton] at hb
      subst hb
      exact fun hab => hk.disj b ht (hab ▸ ha)
    ndP := hk.ndP.filter _
    disj := by
      intro x hx
      simp only [List.mem_filter, decide_eq_true_eq] at hx
      simp only [List.mem_append, List.mem_singleton, not_or]
      exact ⟨hk.disj x hx.1, hx.2⟩
    sym1 := fun x hx => hk.sym1 x (old x hx)
    sym2 := fun x hx => hk.sym2 x (old x hx) }

theorem step_regFuture (s : IS) (t : Tid) (h : KRun s) (ha : t ∈ s.rs.ts.active) (hf : t ∉ s.rs.futs) :
    KRun (applyPrim cfg p (Prim.regFuture t) s) := by
  obtain ⟨hk, hrun⟩ := h
  have hrun' : s.rs.status = .running := hrun
  simp only [applyPrim_running _ _ hrun', stepPrim]
  refine ⟨?_, hrun⟩
  exact { hk with
    ndF := by
      rw [List.nodup_append]
      exact ⟨hk.ndF, by simp, fun a ha' b hb => by
        simp only [List.mem_singleton] at hb; subst hb; exact fun hab => hf (hab ▸ ha')⟩
    futAct := by
      intro x hx
      simp only [List.mem_append, List.mem_singleton] at hx
      rcases hx with hx | hx
      · exact hk.futAct x hx
      · exact hx ▸ ha }

theorem step_serialAppend (s : IS) (t : Tid) (h : KRun s) (ha : t ∈ s.rs.ts.active) (hf : t ∉ s.rs.futs) :
    KRun (applyPrim cfg p (Prim.serialAppend t) s) := by
  have := step_regFuture (cfg := cfg) (p := p) s t h ha hf
  obtain ⟨hk, hrun⟩ := h
  have hrun' : s.rs.status = .running := hrun
  simp only [applyPrim_running _ _ hrun', stepPrim] at this ⊢
  exact this

theorem step_popFuture (s : IS) (t : Tid) (o : Option Outcome) (h : KRun s) (ht : t ∈ s.rs.futs) :
    let s' := applyPrim cfg p (Prim.popFuture t o) s
    KRun s' ∧ t ∈ s'.rs.ts.active ∧ t ∉ s'.rs.futs ∧ s'.rs.ts = s.rs.ts ∧
      s'.rs.futs = s.rs.futs.filter (· ≠ t) := by
  obtain ⟨hk, hrun⟩ := h
  have hrun' : s.rs.status = .running := hrun
  simp only [applyPrim_running _ _ hrun', stepPrim, ht, if_true]
  refine ⟨⟨?_, hrun⟩, hk.futAct t ht, by simp, trivial, trivial⟩
  exact { hk with
    ndF := hk.ndF.filter _
    futAct := fun x hx => hk.futAct x (List.mem_filter.mp hx).1 }

theorem step_raise (s : IS) (t : Tid) (h : K s) : K (applyPrim cfg p (Prim.raiseLabError t) s) := by
  unfold applyPrim
  split
  · exact ⟨h.1, by simp [stepPrim]⟩
  · exact h

theorem step_clearDeque (s : IS) (h : K s) : K (applyPrim cfg p Prim.clearDeque s) := by
  unfold applyPrim
  split
  · refine ⟨{ h.1 with ndF := List.nodup_nil, futAct := fun t ht => by simp [stepPrim] at ht }, h.2⟩
  · exact h

/-- in the middle of `complete_task(t)`: `t` has left the active set; `U` / `R` are the
    dependents / dependencies whose dictionaries still have to drop `t` -/
structure Mid (t : Tid) (U R : List Tid) (s : IS) : Prop where
  kr : KR s.rs.ts s.rs.futs
  run : s.rs.status = .running
  notA : t ∉ s.rs.ts.active
  notP : t ∉ s.rs.ts.pending
  ndU : U.Nodup
  inU : ∀ d ∈ U, t ∈ s.rs.ts.pendDeps d
  ndR : R.Nodup
  inR : ∀ d ∈ R, t ∈ s.rs.ts.pendDependents d

theorem Mid.krun {t : Tid} {U R : List Tid} {s : IS} (h : Mid t U R s) : KRun s := ⟨h.kr, h.run⟩

theorem step_removeActive (s : IS) (t : Tid) (h : KRun s) (ha : t ∈ s.rs.ts.active) (hf : t ∉ s.rs.futs) :
    Mid t (s.rs.ts.pendDependents t) (s.rs.ts.ddeps t) (applyPrim cfg p (Prim.removeActive t) s) := by
  obtain ⟨hk, hrun⟩ := h
  have hrun' : s.rs.status = .running := hrun
  simp only [applyPrim_running _ _ hrun', stepPrim, setRemove, ha, if_true]
  exact {
    kr := { hk with
      futAct := by
        intro x hx
        simp only [List.mem_filter, decide_eq_true_eq]
        exact ⟨hk.futAct x hx, fun hxt => hf (hxt ▸ hx)⟩
      ndA := hk.ndA.filter _
      disj := fun x hx hxa => hk.disj x hx (List.mem_filter.mp hxa).1
      sym1 := fun x hx => hk.sym1 x (hx.imp_left fun hx => (List.mem_filter.mp hx).1)
      sym2 := fun x hx => hk.sym2 x (hx.imp_left fun hx => (List.mem_filter.mp hx).1) }
    run := hrun
    notA := by simp
    notP := fun hp => hk.disj t hp ha
    ndU := hk.ndPdt t
    inU := hk.sym1 t (Or.inl ha)
    ndR := hk.ndDd t
    inR := hk.sym2 t (Or.inl ha) }

theorem step_unblockOne (s : IS) (t d : Tid) (U R : List Tid) (h : Mid t (d :: U) R s) :
    Mid t U R (applyPrim cfg p (Prim.unblockOne t d) s) := by
  have hd : t ∈ s.rs.ts.pendDeps d := h.inU d List.mem_cons_self
  have hndU := List.nodup_cons.mp h.ndU
  simp only [applyPrim_running _ _ h.run, stepPrim, setRemove, hd, if_true]
  have hk := h.kr
  exact { h with
    kr := { hk with
      sym1 := by
        intro x hx d' hd'
        have hxt : x ≠ t := by
          rintro rfl
          rcases hx with hx | hx
          · exact h.notA hx
          · exact h.notP hx
        have := hk.sym1 x hx d' hd'
        simp only [upd]
        split
        · next heq => subst heq; simp [this, hxt]
        · exact this }
    ndU := hndU.2
    inU := by
      intro d' hd'
      have hne : d' ≠ d := fun heq => hndU.1 (heq ▸ hd')
      simp only [upd, hne, if_false]
      exact h.inU d' (List.mem_cons_of_mem _ hd') }

theorem step_releaseOne (s : IS) (t d : Tid) (U R : List Tid) (h : Mid t U (d :: R) s) :
    Mid t U R (applyPrim cfg p (Prim.releaseOne t d) s) := by
  have hd : t ∈ s.rs.ts.pendDependents d := h.inR d List.mem_cons_self
  have hndR := List.nodup_cons.mp h.ndR
  simp only [applyPrim_running _ _ h.run, stepPrim, setRemove, hd, if_true]
  have hk := h.kr
  have hxt : ∀ x, (x ∈ s.rs.ts.active ∨ x ∈ s.rs.ts.pending) → x ≠ t := by
    rintro x hx rfl
    rcases hx with hx | hx
    · exact h.notA hx
    · exact h.notP hx
  exact { h with
    kr := { hk with
      sym1 := by
        intro x hx d' hd'
        apply hk.sym1 x hx d'
        simp only [upd] at hd'
        split at hd'
        · next heq => subst heq; exact (List.mem_filter.mp hd').1
        · exact hd'
      sym2 := by
        intro x hx d' hd'
        have := hk.sym2 x hx d' hd'
        simp only [upd]
        split
        · next heq => subst heq; simp [this, hxt x hx]
        · exact this
      ndPdt := by
        intro d'
        simp only [upd]
        split
        · exact (hk.ndPdt d).filter _
        · exact hk.ndPdt d' }
    ndR := hndR.2
    inR := by
      intro d' hd'
      have hne : d' ≠ d := fun heq => hndR.1 (heq ▸ hd')
      simp only [upd, hne, if_false]
      exact h.inR d' (List.mem_cons_of_mem _ hd') }

theorem always_unblock (t : Tid) : ∀ (U : List Tid) (R : List Tid) (s : IS), Mid t U R s →
    Always cfg p K (U.map (Prim.unblockOne t)) s ∧
    Mid t [] R (runPrims cfg p (U.map (Prim.unblockOne t)) s) := by
  intro U
  induction U with
  | nil => intro R s h; exact ⟨h.krun.k, h⟩
  | cons d U ih =>
    intro R s h
    obtain ⟨i1, i2⟩ := ih R _ (step_unblockOne s t d U R h)
    exact ⟨⟨h.krun.k, i1⟩, i2⟩

theorem always_release (t : Tid) : ∀ (R : List Tid) (s : IS), Mid t [] R s →
    Always cfg p K (R.map (Prim.releaseOne t)) s ∧
    KRun (runPrims cfg p (R.map (Prim.releaseOne t)) s) := by
  intro R
  induction R with
  | nil => intro s h; exact ⟨h.krun.k, h.krun⟩
  | cons d R ih =>
    intro s h
    obtain ⟨i1, i2⟩ := ih _ (step_releaseOne s t d [] R h)
    exact ⟨⟨h.krun.k, i1⟩, i2⟩

theorem always_complete (s : IS) (t : Tid) (h : KRun s) (ha : t ∈ s.rs.ts.active) (hf : t ∉ s.rs.futs) :
    Always cfg p K (completePrims s.rs.ts t) s ∧ KRun (runPrims cfg p (completePrims s.rs.ts t) s) := by
  obtain ⟨u1, u2⟩ := always_unblock t _ _ _ (step_removeActive s t h ha hf)
  obtain ⟨r1, r2⟩ := always_release t _ _ u2
  rw [completePrims, List.singleton_append, List.cons_append, runPrims_cons, runPrims_append]
  exact ⟨⟨h.k, (always_append _ _ _).mpr ⟨u1, r1⟩⟩, r2⟩

theorem quiet_run (ps : List Prim) (s : IS) (hq : ∀ q ∈ ps, q.quiet = true) :
    (runPrims cfg p ps s).rs.ts = s.rs.ts ∧ (runPrims cfg p ps s).rs.futs = s.rs.futs ∧
    (runPrims cfg p ps s).rs.status = s.rs.status :=
  ⟨runPrims_keep (fun s => s.rs.ts) ps s (fun q h s => applyPrim_ts q s (quiet_parts (hq q h)).1),
   runPrims_keep (fun s => s.rs.futs) ps s (fun q h s => applyPrim_futs q s (quiet_parts (hq q h)).2.1),
   runPrims_keep (fun s => s.rs.status) ps s (fun q h s => applyPrim_status q s (quiet_parts (hq q h)).2.2)⟩

theorem KRun_of_core {s s' : IS} (h : KRun s) (h1 : s'.rs.ts = s.rs.ts) (h2 : s'.rs.futs = s.rs.futs)
    (h3 : s'.rs.status = s.rs.status) : KRun s' := by
  simp only [KRun, coreP, h1, h2, h3]; exact h

theorem always_K_quiet (ps : List Prim) (s : IS) (hq : ∀ q ∈ ps, q.quiet = true) (h : K s) :
    Always cfg p K ps s := always_quiet _ ps s hq h

theorem startPrims_quiet (js : List Job) : ∀ q ∈ startPrims js, q.quiet = true :=
  forall_mem_startPrims (fun _ => ⟨rfl, rfl, rfl⟩) js

/-- the consumer's loop body keeps `K` after every primitive: a quiet head, `complete_task`, then the removals
    or the raise -/
theorem always_yield (req : List Tid) (s : IS) (t : Tid) (o : Outcome) (h : KRun s)
    (ha : t ∈ s.rs.ts.active) (hf : t ∉ s.rs.futs) :
    Always cfg p K (yieldPrims cfg req s.rs.ts t o) s := by
  have rem : ∀ s1, KRun s1 → Always cfg p K (removePrims (remOf s.rs.ts t)) s1 := by
    intro s1 h1
    refine always_K_quiet _ s1 (fun q hq => ?_) h1.k
    simp only [removePrims, List.mem_append, List.mem_map, List.mem_singleton] at hq
    rcases hq with ⟨d, _, rfl⟩ | rfl <;> rfl
  have tail : ∀ s1, KRun s1 → Always cfg p K
      (if cfg.contOnFail then removePrims (remOf s.rs.ts t) else [Prim.raiseLabError t]) s1 := by
    intro s1 h1
    split
    · exact rem s1 h1
    · exact ⟨h1.k, step_raise s1 t h1.k⟩
  have body : ∀ (hd tl : List Prim), (∀ q ∈ hd, q.quiet = true) → (∀ s1, KRun s1 → Always cfg p K tl s1) →
      Always cfg p K (hd ++ completePrims s.rs.ts t ++ tl) s := by
    intro hd tl hq htl
    obtain ⟨q1, q2, q3⟩ := quiet_run hd s hq
    have hc := always_complete (cfg := cfg) (p := p) (runPrims cfg p hd s) t (KRun_of_core h q1 q2 q3)
      (by rw [q1]; exact ha) (by rw [q2]; exact hf)
    rw [q1] at hc
    rw [List.append_assoc, always_append, always_append]
    exact ⟨always_K_quiet hd s hq h.k, hc.1, htl _ hc.2⟩
  cases o with
  | ok v =>
    have := body ([Prim.storeResult t v] ++ (if t ∈ req then [Prim.capture t v] else []) ++ [Prim.markInstances t])
      (removePrims (remOf s.rs.ts t))
      (by
        intro q hq
        simp only [List.mem_append, List.mem_singleton] at hq
        rcases hq with (rfl | hq) | rfl
        · rfl
        · split at hq
          · rw [List.mem_singleton.mp hq]; rfl
          · cases hq
        · rfl)
      rem
    simpa only [yieldPrims, List.append_assoc] using this
  | exc => simpa only [yieldPrims, List.nil_append] using body [] _ (by simp) tail
  | died => simpa only [yieldPrims, List.nil_append] using body [] _ (by simp) tail

theorem yieldPrims_futs (req : List Tid) (ts : TS) (t : Tid) (o : Outcome) (s : IS) :
    (runPrims cfg p (yieldPrims cfg req ts t o) s).rs.futs = s.rs.futs :=
  runPrims_keep (fun s => s.rs.futs) _ s (forall_mem_yieldPrims req ts t o
    (fun _ s => applyPrim_futs _ s rfl) (fun _ s => applyPrim_futs _ s rfl) (fun s => applyPrim_futs _ s rfl)
    (fun s => applyPrim_futs _ s rfl) (fun _ s => applyPrim_futs _ s rfl) (fun _ s => applyPrim_futs _ s rfl)
    (fun _ s => applyPrim_futs _ s rfl) (fun _ s => applyPrim_futs _ s rfl) (fun _ s => applyPrim_futs _ s rfl))

theorem always_doneOne (req : List Tid) (s : IS) (t : Tid) (h : KRun s) (ht : t ∈ s.rs.futs) :
    Always cfg p K (doneOnePrims cfg req s t) s ∧
    (∀ x ∈ s.rs.futs, x ≠ t → x ∈ (runPrims cfg p (doneOnePrims cfg req s t) s).rs.futs) := by
  have pop : ∀ o x, x ∈ s.rs.futs → x ≠ t → x ∈ (applyPrim cfg p (Prim.popFuture t o) s).rs.futs := by
    intro o x hx hxt
    rw [(step_popFuture s t o h ht).2.2.2.2]; simp [hx, hxt]
  simp only [doneOnePrims]
  split
  · exact ⟨⟨h.k, (step_popFuture s t none h ht).1.k⟩, pop none⟩
  · split
    · next o _ =>
      obtain ⟨p1, p2, p3, p4, -⟩ := step_popFuture s t (some o) h ht
      have hy := always_yield (cfg := cfg) (p := p) req _ t o p1 p2 p3
      rw [p4] at hy
      exact ⟨⟨h.k, hy⟩, fun x hx hxt => by rw [runPrims_cons, yieldPrims_futs]; exact pop _ x hx hxt⟩
    · exact ⟨h.k, fun x hx _ => hx⟩

theorem always_done (req : List Tid) : ∀ (cands : List Tid) (s : IS), K s → cands.Nodup →
    (∀ t ∈ cands, t ∈ s.rs.futs) → Always cfg p K (donePrims cfg p req cands s) s := by
  intro cands
  induction cands with
  | nil => intro s h _ _; exact h
  | cons t rest ih =>
    intro s h hnd hmem
    have hnd' := List.nodup_cons.mp hnd
    by_cases hrun : s.rs.status = .running
    · rw [donePrims_cons_running req t rest s hrun, always_append]
      obtain ⟨d1, d2⟩ := always_doneOne req s t ⟨h.1, hrun⟩ (hmem t List.mem_cons_self)
      exact ⟨d1, ih _ d1.last hnd'.2 (fun x hx => d2 x (hmem x (List.mem_cons_of_mem _ hx))
        (fun hxt => hnd'.1 (hxt ▸ hx)))⟩
    · rw [donePrims_stopped req _ s hrun]
      exact h

/-- the process runner's `process_completed_tasks()`: three quiet phases, then the done loop over the tracked
    futures -/
theorem always_wait_process (req : List Tid) (c : Choice) (s : IS) (h : K s) (hb : cfg.backend ≠ .serial) :
    Always cfg p K (waitPrims cfg p req c s) s := by
  refine waitPrims_cases (motive := fun ps => Always cfg p K ps s) req c s
    (fun hb' => absurd hb' hb) (fun hb' => absurd hb' hb) ?_
  intro _ s0 s1 s2 h0 h1 h2
  have a := always_K_quiet (cfg := cfg) (p := p) (Prim.consumeResults c :: deadPrims s0) s (by
    intro q hq
    rcases List.mem_cons.mp hq with rfl | hq
    · rfl
    · obtain ⟨t, _, rfl⟩ := List.mem_map.mp hq; rfl) h
  have e1 : runPrims cfg p (Prim.consumeResults c :: deadPrims s0) s = s1 := by rw [h1, h0]; rfl
  have b := always_K_quiet (cfg := cfg) (p := p) (startProcessesPrims cfg s1) s1 (startPrims_quiet _) (e1 ▸ a.last)
  have k2 : K s2 := h2 ▸ b.last
  rw [always_append, always_append, runPrims_append, e1, ← h2]
  exact ⟨⟨a, b⟩, always_done req _ _ k2 k2.1.ndF (fun _ ht => ht)⟩

theorem always_and {A B : IS → Prop} : ∀ (ps : List Prim) (s : IS),
    Always cfg p (fun s => A s ∧ B s) ps s ↔ Always cfg p A ps s ∧ Always cfg p B ps s := by
  intro ps
  induction ps with
  | nil => intro s; exact Iff.rfl
  | cons q ps ih =>
    intro s
    simp only [Always, ih]
    exact ⟨fun h => ⟨⟨h.1.1, h.2.1⟩, h.1.2, h.2.2⟩, fun h => ⟨⟨h.1.1, h.2.1⟩, h.1.2, h.2.2⟩⟩

/-- the serial runner's deque mirrors `futs` -/
def KS (s : IS) : Prop := (s.rs.queued.map Job.tid).Nodup ∧ ∀ j ∈ s.rs.queued, j.tid ∈ s.rs.futs

theorem KS_keep (ps : List Prim) (s : IS) (hq : ∀ q ∈ ps, q.touchesQueued = false ∧ q.touchesFuts = false) :
    KS s → Always cfg p KS ps s :=
  always_of_step ps s (fun q hq' s h => by
    rw [KS, applyPrim_queued q s (hq q hq').1, applyPrim_futs q s (hq q hq').2]; exact h)

theorem always_wait_serial (req : List Tid) (c : Choice) (s : IS) (h : K s) (hks : KS s)
    (hb : cfg.backend = .serial) :
    Always cfg p (fun s => K s ∧ KS s) (waitPrims cfg p req c s) s := by
  by_cases hrun : ¬ s.rs.status = .running
  · exact always_stopped _ s hrun ⟨h, hks⟩
  have hrun : s.rs.status = .running := Decidable.not_not.mp hrun
  refine waitPrims_cases (motive := fun ps => Always cfg p (fun s => K s ∧ KS s) ps s) req c s ?_ ?_
    (fun hb' => absurd hb hb')
  · intro _ hq
    have e : applyPrim cfg p Prim.popDeque s =
        { s with rs := { s.rs with trace := s.rs.trace ++ [Ev.waitEnter (s.rs.queued.map Job.tid) []] } } := by
      simp only [applyPrim_running _ _ hrun, stepPrim, hq]
    exact ⟨⟨h, hks⟩, by rw [e]; exact ⟨h, hks⟩⟩
  · intro _ j rest o hq _
    have hjf : j.tid ∈ s.rs.futs := hks.2 j (by rw [hq]; exact List.mem_cons_self)
    have hnd : j.tid ∉ rest.map Job.tid ∧ (rest.map Job.tid).Nodup := by
      have := hks.1; rw [hq] at this; exact List.nodup_cons.mp this
    have hrest : ∀ j' ∈ rest, j'.tid ∈ s.rs.futs := fun j' hj' => hks.2 j' (by rw [hq]; exact List.mem_cons_of_mem _ hj')
    -- `popleft` .. `save`: quiet; the deque loses its head
    have q3 : ∀ q ∈ [Prim.popDeque, Prim.serialRun, Prim.serialSaveBegin, Prim.serialSaveEnd], q.quiet = true := by
      intro q hq'; simp only [List.mem_cons, List.not_mem_nil, or_false] at hq'
      rcases hq' with rfl | rfl | rfl | rfl <;> rfl
    obtain ⟨c1, c2, c3⟩ := quiet_run _ s q3
    have eq1 : (applyPrim cfg p Prim.popDeque s).rs.queued = rest := by
      simp only [applyPrim_running _ _ hrun, stepPrim, hq]
    have ks_pre : Always cfg p KS [Prim.popDeque, Prim.serialRun, Prim.serialSaveBegin, Prim.serialSaveEnd] s := by
      refine ⟨hks, KS_keep [Prim.serialRun, Prim.serialSaveBegin, Prim.serialSaveEnd] _ (fun q hq' => ?_) ?_⟩
      · simp only [List.mem_cons, List.not_mem_nil, or_false] at hq'
        rcases hq' with rfl | rfl | rfl <;> exact ⟨rfl, rfl⟩
      · rw [KS, eq1, applyPrim_futs _ _ rfl]; exact ⟨hnd.2, hrest⟩
    have hq3 : (runPrims cfg p [Prim.popDeque, Prim.serialRun, Prim.serialSaveBegin, Prim.serialSaveEnd] s).rs.queued
        = rest := by
      simp only [runPrims_cons, runPrims_nil]
      rw [applyPrim_queued _ _ rfl, applyPrim_queued _ _ rfl, applyPrim_queued _ _ rfl, eq1]
    -- the pop, then the loop body
    obtain ⟨p1, p2, p3, p4, p5⟩ := step_popFuture _ j.tid (some o)
      (KRun_of_core ⟨h.1, hrun⟩ c1 c2 c3) (by rw [c2]; exact hjf)
    have hy := always_yield (cfg := cfg) (p := p) req _ j.tid o p1 p2 p3
    rw [p4, c1] at hy
    have hky := KS_keep (cfg := cfg) (p := p) (yieldPrims cfg req s.rs.ts j.tid o) _
      (forall_mem_yieldPrims req _ _ _ (fun _ => ⟨rfl, rfl⟩) (fun _ => ⟨rfl, rfl⟩) ⟨rfl, rfl⟩ ⟨rfl, rfl⟩
        (fun _ => ⟨rfl, rfl⟩) (fun _ => ⟨rfl, rfl⟩) (fun _ => ⟨rfl, rfl⟩) (fun _ => ⟨rfl, rfl⟩) (fun _ => ⟨rfl, rfl⟩))
      (by
        rw [KS, applyPrim_queued (Prim.popFuture j.tid (some o)) _ rfl, p5, hq3, c2]
        exact ⟨hnd.2, fun j' hj' => List.mem_filter.mpr ⟨hrest j' hj', decide_eq_true
          (fun he : j'.tid = j.tid => hnd.1 (he ▸ List.mem_map.mpr ⟨j', hj', rfl⟩))⟩⟩)
    rw [always_append, always_and, always_and]
    exact ⟨⟨always_K_quiet _ s q3 h, ks_pre⟩, ⟨(KRun_of_core ⟨h.1, hrun⟩ c1 c2 c3).k, hy⟩, ks_pre.last, hky⟩

end Lt
