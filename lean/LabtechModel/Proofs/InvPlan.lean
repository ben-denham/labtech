import LabtechModel.Proofs.InvDefs
/-!
# What the loop invariant needs to know of the plan built by `process_tasks`

Three invariants of the planning steps (`Step`): `PJ`, membership facts tying `instances`, `ddeps`,
`processed` and `pending` to the problem; `G`, the worklist argument behind fuel sufficiency
(`plan_closed`: under `Acyclic` the tids on the worklist shrink with every recursion level, so `FuelOK`
levels empty it); `PE`, the recorded dependencies as an *ordered* list (needs `InstOK`).
-/
namespace Lt

theorem mem_dedup (l : List Nat) (x : Nat) : x ∈ dedup l ↔ x ∈ l := by
  induction l with
  | nil => simp [dedup]
  | cons y ys ih =>
    simp only [dedup, List.mem_cons, List.mem_filter, ih]
    by_cases h : x = y <;> simp [h]

theorem dedup_nodup (l : List Nat) : (dedup l).Nodup := by
  induction l with
  | nil => simp [dedup]
  | cons y ys ih =>
    simp only [dedup, List.nodup_cons]
    refine ⟨by simp, ?_⟩
    exact List.Nodup.sublist List.filter_sublist ih

theorem mem_foldl_sadd (x : Nat) : ∀ (ds l : List Nat), x ∈ ds.foldl sadd l ↔ x ∈ l ∨ x ∈ ds := by
  intro ds
  induction ds with
  | nil => intro l; simp
  | cons d ds ih =>
    intro l
    simp only [List.foldl, ih, sadd_mem, List.mem_cons]
    grind

theorem foldl_sadd_subset : ∀ (ds l : List Nat), (∀ d ∈ ds, d ∈ l) → ds.foldl sadd l = l := by
  intro ds
  induction ds with
  | nil => intro l _; rfl
  | cons d ds ih =>
    intro l h
    have hd : d ∈ l := h d (by simp)
    simp only [List.foldl]
    have : sadd l d = l := by simp [sadd, hd]
    rw [this]
    exact ih l (fun x hx => h x (by simp [hx]))

theorem foldl_sadd_nodup : ∀ (ds l : List Nat), (l ++ ds).Nodup → ds.foldl sadd l = l ++ ds := by
  intro ds
  induction ds with
  | nil => intro l _; simp
  | cons d ds ih =>
    intro l h
    have hd : d ∉ l := by
      intro hd
      rw [List.nodup_append] at h
      exact h.2.2 d hd d (by simp) rfl
    simp only [List.foldl]
    have : sadd l d = l ++ [d] := by simp [sadd, hd]
    rw [this, ih (l ++ [d]) (by simpa using h)]
    simp

variable (cfg : Config) (p : Problem) (uc : Tid → Bool) (store : Store) (fuel : Nat)

theorem Step.mem_pend {p : Problem} {uc : Tid → Bool} {i : Iid} {s s1 : TS} (hs : Step p uc i s s1) (t : Tid) :
    t ∈ s1.pending ↔ t ∈ s.pending ∨ t = p.tidOf i := by
  rw [hs.pend, sadd_mem]

theorem Step.mem_proc {p : Problem} {uc : Tid → Bool} {i : Iid} {s s1 : TS} (hs : Step p uc i s s1) (j : Iid) :
    j ∈ s1.processed ↔ j ∈ s.processed ∨ j = i := by
  rw [hs.proc, List.mem_append, List.mem_singleton]

theorem Step.mem_inst {p : Problem} {uc : Tid → Bool} {i : Iid} {s s1 : TS} (hs : Step p uc i s s1)
    (t : Tid) (j : Iid) : j ∈ s1.instances t ↔ j ∈ s.instances t ∨ (t = p.tidOf i ∧ j = i) := by
  rw [hs.inst]
  split
  · next h => subst h; simp
  · next h => simp [h]

theorem Step.mem_dd {p : Problem} {uc : Tid → Bool} {i : Iid} {s s1 : TS} (hs : Step p uc i s s1)
    (t d : Tid) : d ∈ s1.ddeps t ↔
      d ∈ s.ddeps t ∨ (t = p.tidOf i ∧ uc t = false ∧ ∃ c ∈ p.children i, p.tidOf c = d) := by
  rw [hs.dd]
  split
  · next h =>
    subst h
    rw [mem_foldl_sadd, mem_dedup]
    cases hu : uc (p.tidOf i) <;> simp [depInstsOf, hu]
  · next h => simp [h]

structure PJ (p : Problem) (uc : Tid → Bool) (s : TS) : Prop where
  instTid : ∀ t i, i ∈ s.instances t → p.tidOf i = t ∧ i ∈ s.processed
  depSound : ∀ t d, d ∈ s.ddeps t →
    uc t = false ∧ ∃ i, i ∈ s.instances t ∧ ∃ c ∈ p.children i, p.tidOf c = d
  procInst : ∀ i ∈ s.processed, i ∈ s.instances (p.tidOf i) ∧ p.tidOf i ∈ s.pending ∧
    (uc (p.tidOf i) = false → ∀ c ∈ p.children i, p.tidOf c ∈ s.ddeps (p.tidOf i))
  pendInst : ∀ t ∈ s.pending, s.instances t ≠ []

theorem PJ_empty : PJ p uc {} := by
  constructor <;> simp

theorem PJ_step (i : Iid) (s s1 : TS)
    (hs : Step p uc i s s1) (h : PJ p uc s) : PJ p uc s1 := by
  obtain ⟨h1, h2, h3, h4⟩ := h
  constructor
  · intro t j hj
    rw [hs.mem_inst] at hj
    rw [hs.mem_proc]
    rcases hj with hj | ⟨rfl, rfl⟩
    · exact ⟨(h1 _ _ hj).1, Or.inl (h1 _ _ hj).2⟩
    · exact ⟨rfl, Or.inr rfl⟩
  · intro t d hdd
    rw [hs.mem_dd] at hdd
    rcases hdd with hdd | ⟨rfl, hu, c, hc, hcd⟩
    · obtain ⟨a, j, hj, hc⟩ := h2 _ _ hdd
      exact ⟨a, j, (hs.mem_inst _ _).mpr (Or.inl hj), hc⟩
    · exact ⟨hu, i, (hs.mem_inst _ _).mpr (Or.inr ⟨rfl, rfl⟩), c, hc, hcd⟩
  · intro j hj
    rw [hs.mem_inst, hs.mem_pend]
    rcases (hs.mem_proc j).mp hj with hj | hji
    · obtain ⟨a, b, c⟩ := h3 j hj
      exact ⟨Or.inl a, Or.inl b, fun hu x hx => (hs.mem_dd _ _).mpr (Or.inl (c hu x hx))⟩
    · subst hji
      exact ⟨Or.inr ⟨rfl, rfl⟩, Or.inr rfl,
        fun hu c hc => (hs.mem_dd _ _).mpr (Or.inr ⟨rfl, hu, c, hc, rfl⟩)⟩
  · intro t ht hnil
    have hno : ∀ j, j ∉ s1.instances t := fun j hj => by rw [hnil] at hj; simp at hj
    rcases (hs.mem_pend t).mp ht with ht | rfl
    · exact h4 t ht (List.eq_nil_iff_forall_not_mem.mpr
        (fun j hj => hno j ((hs.mem_inst _ _).mpr (Or.inl hj))))
    · exact hno i ((hs.mem_inst _ _).mpr (Or.inr ⟨rfl, rfl⟩))

theorem plan_PJ :
    PJ p (useCache cfg p store) (plan cfg p store fuel) :=
  processTasks_ind p _ (PJ p _) (fun i s s1 _ hs h => PJ_step p _ i s s1 hs h) fuel _ _ (PJ_empty _ _)

theorem plan_ddeps_sound (t d : Tid)
    (h : d ∈ (plan cfg p store fuel).ddeps t) :
    ∃ i, i ∈ (plan cfg p store fuel).instances t ∧ ∃ c ∈ p.children i, p.tidOf c = d :=
  ((plan_PJ cfg p store fuel).depSound t d h).2

theorem plan_instances_tid (t : Tid) (i : Iid)
    (h : i ∈ (plan cfg p store fuel).instances t) : p.tidOf i = t :=
  ((plan_PJ cfg p store fuel).instTid t i h).1

theorem plan_ddeps_lt (hA : Acyclic p)
    (t d : Tid) (h : d ∈ (plan cfg p store fuel).ddeps t) : d < t := by
  obtain ⟨i, hi, c, hc, hcd⟩ := plan_ddeps_sound cfg p store fuel t d h
  have h1 := plan_instances_tid cfg p store fuel t i hi
  have h2 := hA i c hc
  rw [h1, hcd] at h2
  exact h2

theorem plan_ddeps_complete (t : Tid) (i : Iid)
    (hi : i ∈ (plan cfg p store fuel).instances t) (hc : useCache cfg p store t = false) :
    ∀ c ∈ p.children i, p.tidOf c ∈ (plan cfg p store fuel).ddeps t := by
  have hJ := plan_PJ cfg p store fuel
  obtain ⟨h1, h2⟩ := hJ.instTid t i hi
  subst h1
  exact (hJ.procInst i h2).2.2 hc

theorem plan_cached_no_deps (t : Tid)
    (hc : useCache cfg p store t = true) : (plan cfg p store fuel).ddeps t = [] := by
  rw [List.eq_nil_iff_forall_not_mem]
  intro d hd
  have := ((plan_PJ cfg p store fuel).depSound t d hd).1
  rw [hc] at this
  exact absurd this (by simp)

/-- a planned task has at least one recorded object (so `repr0` is a real object of it) -/
theorem plan_pending_instances (t : Tid)
    (h : t ∈ (plan cfg p store fuel).pending) : (plan cfg p store fuel).instances t ≠ [] :=
  (plan_PJ cfg p store fuel).pendInst t h

theorem processLevel_processed (P : Iid → Prop) (l : List Iid) (s : TS)
    (acc : List Iid) (h : ∀ i, P i → i ∈ l ∨ i ∈ s.processed) :
    ∀ i, P i → i ∈ (processLevel p uc l s acc).1.processed := by
  have := processLevel_ind p uc (fun l s _ => ∀ i, P i → i ∈ l ∨ i ∈ s.processed)
    (fun i is s acc hi h j hj => by
      rcases h j hj with h | h
      · rcases List.mem_cons.mp h with rfl | h
        · exact Or.inr hi
        · exact Or.inl h
      · exact Or.inr h)
    (fun i is s s1 acc _ hs h j hj => by
      rw [hs.mem_proc]
      rcases h j hj with h | h
      · rcases List.mem_cons.mp h with h | h
        · exact Or.inr (Or.inr h)
        · exact Or.inl h
      · exact Or.inr (Or.inl h))
    l s acc h
  exact fun i hi => (this i hi).resolve_left (by simp)

theorem processTasks_processed (x : Iid) (fuel : Nat) (l : List Iid)
    (s : TS) (h : x ∈ s.processed) : x ∈ (processTasks p uc fuel l s).processed :=
  processTasks_ind p uc (fun s => x ∈ s.processed)
    (fun i s s1 _ hs h => by rw [hs.proc]; simp [h]) fuel l s h

theorem plan_requested_pending (hF : 0 < fuel) :
    ∀ i ∈ p.requested, p.tidOf i ∈ (plan cfg p store fuel).pending := by
  intro i hi
  have hJ := plan_PJ cfg p store fuel
  suffices h : i ∈ (plan cfg p store fuel).processed from (hJ.procInst i h).2.1
  obtain ⟨n, rfl⟩ : ∃ n, fuel = n + 1 := ⟨fuel - 1, by omega⟩
  have h1 := processLevel_processed p (useCache cfg p store) (fun i => i ∈ p.requested)
    p.requested {} [] (fun i hi => Or.inl hi) i hi
  simp only [plan, processTasks]
  split
  · exact h1
  · exact processTasks_processed _ _ _ _ _ _ h1

/-- every recorded dependency is planned or still on the worklist `W` -/
def G (p : Problem) (s : TS) (W : List Iid) : Prop :=
  ∀ t d, d ∈ s.ddeps t → d ∈ s.pending ∨ ∃ c ∈ W, p.tidOf c = d

theorem processLevel_G (hA : Acyclic p) (n : Nat)
    (l : List Iid) (s : TS) (acc : List Iid)
    (hJ : PJ p uc s) (hG : G p s (l ++ acc)) (hl : ∀ i ∈ l, p.tidOf i < n + 1)
    (hacc : ∀ c ∈ acc, p.tidOf c < n) :
    PJ p uc (processLevel p uc l s acc).1 ∧
    G p (processLevel p uc l s acc).1 (processLevel p uc l s acc).2 ∧
    ∀ c ∈ (processLevel p uc l s acc).2, p.tidOf c < n := by
  have := processLevel_ind p uc
    (fun l s acc => PJ p uc s ∧ G p s (l ++ acc) ∧ (∀ i ∈ l, p.tidOf i < n + 1) ∧
      (∀ c ∈ acc, p.tidOf c < n))
    (by
      rintro i is s acc hi ⟨hJ, hG, hl, hacc⟩
      refine ⟨hJ, ?_, fun j hj => hl j (by simp [hj]), hacc⟩
      intro t d hd
      rcases hG t d hd with h | ⟨c, hc, hcd⟩
      · exact Or.inl h
      · rcases List.mem_cons.mp hc with rfl | hc
        · exact Or.inl (hcd ▸ (hJ.procInst c hi).2.1)
        · exact Or.inr ⟨c, hc, hcd⟩)
    (by
      rintro i is s s1 acc hi hs ⟨hJ, hG, hl, hacc⟩
      refine ⟨PJ_step p uc i s s1 hs hJ, ?_, fun j hj => hl j (by simp [hj]), ?_⟩
      · intro t d hd
        rw [hs.mem_pend]
        rcases (hs.mem_dd t d).mp hd with hd | ⟨_, hu, c, hc, hcd⟩
        · rcases hG t d hd with h | ⟨c, hc, hcd⟩
          · exact Or.inl (Or.inl h)
          · rcases List.mem_cons.mp hc with rfl | hc
            · exact Or.inl (Or.inr hcd.symm)
            · exact Or.inr ⟨c, List.mem_append.mpr ((List.mem_append.mp hc).imp id (List.mem_append_left _)), hcd⟩
        · exact Or.inr ⟨c, by simp [depInstsOf, ← ‹t = p.tidOf i›, hu, hc], hcd⟩
      · intro c hc
        rcases List.mem_append.mp hc with hc | hc
        · exact hacc c hc
        · have : c ∈ p.children i := by
            simp only [depInstsOf] at hc
            split at hc
            · simp at hc
            · exact hc
          exact Nat.lt_of_lt_of_le (hA i c this) (Nat.le_of_lt_succ (hl i (by simp))))
    l s acc ⟨hJ, hG, hl, hacc⟩
  exact ⟨this.1, by simpa using this.2.1, this.2.2.2⟩

theorem processTasks_G (hA : Acyclic p) :
    ∀ (fuel : Nat) (l : List Iid) (s : TS), PJ p uc s → G p s l → (∀ i ∈ l, p.tidOf i < fuel) →
      G p (processTasks p uc fuel l s) [] := by
  intro fuel
  induction fuel with
  | zero =>
    intro l s _ hG hl
    have : l = [] := by
      rw [List.eq_nil_iff_forall_not_mem]
      intro i hi
      exact absurd (hl i hi) (Nat.not_lt_zero _)
    subst this
    simpa [processTasks] using hG
  | succ n ih =>
    intro l s hJ hG hl
    obtain ⟨h1, h2, h3⟩ := processLevel_G p uc hA n l s [] hJ (by simpa using hG) hl (by simp)
    simp only [processTasks]
    split
    · next he =>
      rw [List.isEmpty_iff] at he
      rw [he] at h2
      exact h2
    · exact ih _ _ h1 h2 h3

/-- under Acyclic and enough fuel, planning reaches its fixpoint: every dependency of a planned task is planned -/
theorem plan_closed (cfg : Config) (p : Problem) (store : Store) (fuel : Nat)
    (hA : Acyclic p) (hF : FuelOK p fuel) : PlanClosed (plan cfg p store fuel) := by
  intro t _ d hd
  have := processTasks_G p (useCache cfg p store) hA fuel p.requested {} (PJ_empty _ _)
    (by intro t d h; simp at h) hF t d hd
  rcases this with h | ⟨c, hc, _⟩
  · exact h
  · simp at hc

/-- the dependencies of a not-cached planned task are the de-duplicated child tids of its first object -/
def PE (p : Problem) (uc : Tid → Bool) (s : TS) : Prop :=
  ∀ t ∈ s.pending, uc t = false → s.ddeps t = dedup ((p.children (repr0 s t)).map p.tidOf)

theorem repr0_mem (s : TS) (t : Tid) (h : s.instances t ≠ []) : repr0 s t ∈ s.instances t := by
  simp only [repr0]
  cases hc : s.instances t with
  | nil => exact absurd hc h
  | cons a l => simp

theorem PE_step (hI : InstOK p) (i : Iid) (s s1 : TS)
    (hs : Step p uc i s s1) (hJ : PJ p uc s) (hE : PE p uc s) : PE p uc s1 := by
  intro t ht hu
  rw [hs.pend, sadd_mem] at ht
  by_cases hti : t = p.tidOf i
  · subst hti
    have hdi : depInstsOf p uc i = p.children i := by simp [depInstsOf, hu]
    have hr : s1.instances (p.tidOf i) = s.instances (p.tidOf i) ++ [i] := by
      rw [hs.inst]; simp
    rw [hs.dd]
    simp only [if_true, hdi]
    by_cases hp : p.tidOf i ∈ s.pending
    · have hne := hJ.pendInst _ hp
      have hrepr : repr0 s1 (p.tidOf i) = repr0 s (p.tidOf i) := by
        simp only [repr0, hr]
        cases hc : s.instances (p.tidOf i) with
        | nil => exact absurd hc hne
        | cons a l => simp
      have htid := (hJ.instTid _ _ (repr0_mem s _ hne)).1
      have heq := hI _ _ htid
      have hold := hE _ hp hu
      rw [hrepr, heq]
      rw [heq] at hold
      rw [hold]
      exact foldl_sadd_subset _ _ (fun d hd => hd)
    · have hnil : s.instances (p.tidOf i) = [] := by
        rw [List.eq_nil_iff_forall_not_mem]
        intro j hj
        obtain ⟨h1, h2⟩ := hJ.instTid _ j hj
        exact hp (h1 ▸ (hJ.procInst j h2).2.1)
      have hdn : s.ddeps (p.tidOf i) = [] := by
        rw [List.eq_nil_iff_forall_not_mem]
        intro d hd
        obtain ⟨_, j, hj, _⟩ := hJ.depSound _ d hd
        rw [hnil] at hj
        simp at hj
      have hrepr : repr0 s1 (p.tidOf i) = i := by
        simp [repr0, hr, hnil]
      rw [hrepr, hdn, foldl_sadd_nodup _ _ (by simpa using dedup_nodup _)]
      simp
  · have hp : t ∈ s.pending := by
      rcases ht with ht | ht
      · exact ht
      · exact absurd ht hti
    have hrepr : repr0 s1 t = repr0 s t := by
      simp only [repr0, hs.inst, hti, if_false]
    rw [hs.dd, hrepr]
    simp only [hti, if_false]
    exact hE t hp hu

theorem plan_ddeps_eq (cfg : Config) (p : Problem) (store : Store) (fuel : Nat) (hI : InstOK p) (t : Tid)
    (h : t ∈ (plan cfg p store fuel).pending) (hc : useCache cfg p store t = false) :
    (plan cfg p store fuel).ddeps t = dedup ((p.children (repr0 (plan cfg p store fuel) t)).map p.tidOf) := by
  have := processTasks_ind p (useCache cfg p store)
    (fun s => PJ p (useCache cfg p store) s ∧ PE p (useCache cfg p store) s)
    (fun i s s1 _ hs h => ⟨PJ_step _ _ i s s1 hs h.1, PE_step _ _ hI i s s1 hs h.1 h.2⟩)
    fuel p.requested {} ⟨PJ_empty _ _, by intro t ht; simp at ht⟩
  exact this.2 t h hc

example : PlanClosed (plan invExCfg invExP [] 4) := plan_closed _ _ _ _ invExP_acyclic invExP_fuel

example : PlanClosed (plan invExCfg invExP [] 4) ∧
    ∀ t d, d ∈ (plan invExCfg invExP [] 4).ddeps t → d < t :=
  ⟨plan_closed invExCfg invExP [] 4 invExP_acyclic invExP_fuel,
   plan_ddeps_lt invExCfg invExP [] 4 invExP_acyclic⟩

end Lt
