import LabtechModel.Model.Params
/-!
# `json.dumps` is injective, part 2: string literals

`escChar` (`py_encode_basestring_ascii` for one character) is a prefix code: `decEsc` reads one
escaped character back from the front of any text (`decEsc_escChar`), and refuses a bare `"`.
Hence a string literal `"…"` followed by anything determines the string and what follows
(`strLit_inj`).  The surrogate-pair escape of a code point ≥ 65536 cannot be confused with a BMP
`\uXXXX` escape because a Lean `Char` is a Unicode scalar value, never in 0xD800–0xDFFF
(`char_valid`).  On Python strs, which may hold lone surrogates, this fails: the two-code-point str
`'\ud83d\ude00'` and the one-character str `'\U0001f600'` both print as `"\ud83d\ude00"` — known
finding F07c.
-/
namespace Lt.Params

theorem char_valid (c : Char) : c.toNat < 55296 ∨ (57343 < c.toNat ∧ c.toNat < 1114112) := by
  have := c.valid
  simp only [UInt32.isValidChar, Nat.isValidChar] at this
  show c.val.toNat < 55296 ∨ (57343 < c.val.toNat ∧ c.val.toNat < 1114112)
  omega

theorem char_eq_of_toNat {c : Char} {n : Nat} (h : c.toNat = n) : c = Char.ofNat n := by
  rw [← h, Char.ofNat_toNat]

/-- value of a lower-case hexadecimal digit -/
def hexVal (c : Char) : Nat := if c.toNat < 58 then c.toNat - 48 else c.toNat - 87

def hex4 (a b c d : Char) : Nat := hexVal a * 4096 + hexVal b * 256 + hexVal c * 16 + hexVal d

theorem hexVal_hexDigit (n : Nat) (h : n < 16) : hexVal (hexDigit n) = n := by
  have key : ∀ k : Fin 16, hexVal (hexDigit k.val) = k.val := by decide
  exact key ⟨n, h⟩

theorem hex4_u4 (n : Nat) (h : n < 65536) :
    hex4 (hexDigit (n / 4096 % 16)) (hexDigit (n / 256 % 16)) (hexDigit (n / 16 % 16)) (hexDigit (n % 16)) = n := by
  simp only [hex4]
  rw [hexVal_hexDigit _ (Nat.mod_lt _ (by decide)), hexVal_hexDigit _ (Nat.mod_lt _ (by decide)),
    hexVal_hexDigit _ (Nat.mod_lt _ (by decide)), hexVal_hexDigit _ (Nat.mod_lt _ (by decide))]
  omega

/-- the part of `decEsc` after `\u`: four hex digits, and a second `\uXXXX` if the first is a high
surrogate -/
def decU : List Char → Option (Char × List Char)
  | a :: b :: c :: d :: r =>
    if 55296 ≤ hex4 a b c d ∧ hex4 a b c d < 56320 then
      match r with
      | _ :: _ :: a' :: b' :: c' :: d' :: r' =>
        some (Char.ofNat (65536 + (hex4 a b c d - 55296) * 1024 + (hex4 a' b' c' d' - 56320)), r')
      | _ => none
    else some (Char.ofNat (hex4 a b c d), r)
  | _ => none

/-- read one escaped character from the front of a text; a bare `"` is refused -/
def decEsc : List Char → Option (Char × List Char)
  | [] => none
  | c :: r =>
    if c = '"' then none
    else if c ≠ '\\' then some (c, r)
    else
      match r with
      | [] => none
      | e :: r =>
        if e = '"' then some ('"', r)
        else if e = '\\' then some ('\\', r)
        else if e = 'n' then some ('\n', r)
        else if e = 'r' then some ('\r', r)
        else if e = 't' then some ('\t', r)
        else if e = 'b' then some (Char.ofNat 8, r)
        else if e = 'f' then some (Char.ofNat 12, r)
        else if e = 'u' then decU r
        else none

theorem decEsc_plain {c : Char} (h1 : c ≠ '"') (h2 : c ≠ '\\') (r : List Char) : decEsc (c :: r) = some (c, r) := by
  simp only [decEsc, h1, h2, if_false, ne_eq, not_false_eq_true, if_true]

theorem decEsc_u (r : List Char) : decEsc ('\\' :: 'u' :: r) = decU r := rfl

theorem decEsc_u4_bmp (n : Nat) (h : n < 65536) (hs : ¬ (55296 ≤ n ∧ n < 56320)) (r : List Char) :
    decEsc (u4 n ++ r) = some (Char.ofNat n, r) := by
  simp only [u4, List.cons_append, List.nil_append, decEsc_u, decU, hex4_u4 n h, hs, if_false]

theorem decEsc_u4_pair (hi lo : Nat) (h1 : 55296 ≤ hi) (h2 : hi < 56320) (h3 : lo < 65536) (r : List Char) :
    decEsc (u4 hi ++ (u4 lo ++ r)) = some (Char.ofNat (65536 + (hi - 55296) * 1024 + (lo - 56320)), r) := by
  simp only [u4, List.cons_append, List.nil_append, decEsc_u, decU, hex4_u4 hi (by omega), hex4_u4 lo h3, h1, h2,
    and_self, if_true]

theorem decEsc_escChar (c : Char) (r : List Char) : decEsc (escChar c ++ r) = some (c, r) := by
  by_cases h1 : c = '"'
  · subst h1; rfl
  by_cases h2 : c = '\\'
  · subst h2; rfl
  by_cases h3 : c = '\n'
  · subst h3; rfl
  by_cases h4 : c = '\r'
  · subst h4; rfl
  by_cases h5 : c = '\t'
  · subst h5; rfl
  by_cases h6 : c.toNat = 8
  · rw [char_eq_of_toNat h6]; rfl
  by_cases h7 : c.toNat = 12
  · rw [char_eq_of_toNat h7]; rfl
  rw [escChar, if_neg h1, if_neg h2, if_neg h3, if_neg h4, if_neg h5, if_neg h6, if_neg h7]
  by_cases h8 : 32 ≤ c.toNat ∧ c.toNat ≤ 126
  · rw [if_pos h8]; exact decEsc_plain h1 h2 r
  have hv := char_valid c
  rw [if_neg h8]
  by_cases h9 : c.toNat < 65536
  · rw [if_pos h9, decEsc_u4_bmp c.toNat h9 (by omega), Char.ofNat_toNat]
  · rw [if_neg h9, List.append_assoc, decEsc_u4_pair _ _ (by omega) (by omega) (by omega)]
    have : 65536 + (55296 + (c.toNat - 65536) / 1024 % 1024 - 55296) * 1024 +
        (56320 + (c.toNat - 65536) % 1024 - 56320) = c.toNat := by omega
    rw [this, Char.ofNat_toNat]

theorem decEsc_quote (r : List Char) : decEsc ('"' :: r) = none := by simp [decEsc]

/-- the body of a string literal up to its closing quote determines the string and the rest -/
theorem escChars_inj : ∀ (s s' r r' : List Char),
    escChars s ++ '"' :: r = escChars s' ++ '"' :: r' → s = s' ∧ r = r'
  | [], [] => fun r r' h => by simpa [escChars] using h
  | [], c :: cs => fun r r' h => by
    have := congrArg decEsc h
    simp only [escChars, List.nil_append, List.append_assoc, decEsc_quote, decEsc_escChar] at this
    cases this
  | c :: cs, [] => fun r r' h => by
    have := congrArg decEsc h
    simp only [escChars, List.nil_append, List.append_assoc, decEsc_quote, decEsc_escChar] at this
    cases this
  | c :: cs, c' :: cs' => fun r r' h => by
    have := congrArg decEsc h
    simp only [escChars, List.append_assoc, decEsc_escChar, Option.some.injEq, Prod.mk.injEq] at this
    obtain ⟨hc, hrest⟩ := this
    have ih := escChars_inj cs cs' r r' hrest
    exact ⟨by rw [hc, ih.1], ih.2⟩

theorem dumpsStr_toList (s : String) : (dumpsStr s).toList = '"' :: (escChars s.toList ++ ['"']) := by
  simp [dumpsStr]

/-- a string literal followed by anything determines the string and what follows -/
theorem strLit_inj (s s' : String) (r r' : List Char)
    (h : (dumpsStr s).toList ++ r = (dumpsStr s').toList ++ r') : s = s' ∧ r = r' := by
  simp only [dumpsStr_toList, List.cons_append, List.append_assoc, List.cons.injEq, true_and,
    List.nil_append] at h
  have := escChars_inj _ _ _ _ h
  exact ⟨String.toList_inj.mp this.1, this.2⟩

theorem dumpsStr_injective (s s' : String) (h : dumpsStr s = dumpsStr s') : s = s' :=
  (strLit_inj s s' [] [] (by rw [h])).1

end Lt.Params
