import LabtechModel.Model.Intr
import LabtechModel.Proofs.InvMain
/-!
# M10 basics: folding primitives, the blocks of the streams taken apart, `complete_task` block by block
-/
namespace Lt

variable {cfg : Config} {p : Problem}

@[simp] theorem runPrims_nil (s : IS) : runPrims cfg p [] s = s := rfl

@[simp] theorem runPrims_cons (q : Prim) (ps : List Prim) (s : IS) :
    runPrims cfg p (q :: ps) s = runPrims cfg p ps (applyPrim cfg p q s) := rfl

theorem runPrims_append (a b : List Prim) (s : IS) :
    runPrims cfg p (a ++ b) s = runPrims cfg p b (runPrims cfg p a s) := by
  simp [runPrims, List.foldl_append]

theorem applyPrim_running (q : Prim) (s : IS) (h : s.rs.status = .running) :
    applyPrim cfg p q s = stepPrim cfg p q s := by
  simp [applyPrim, h]

theorem applyPrim_stopped (q : Prim) (s : IS) (h : s.rs.status ≠ .running) :
    applyPrim cfg p q s = s := by
  unfold applyPrim
  cases hs : s.rs.status <;> simp_all

theorem runPrims_stopped (ps : List Prim) (s : IS) (h : s.rs.status ≠ .running) :
    runPrims cfg p ps s = s := by
  induction ps with
  | nil => rfl
  | cons q ps ih => rw [runPrims_cons, applyPrim_stopped q s h, ih]

theorem running_of_step (q : Prim) (s : IS) (h : (applyPrim cfg p q s).rs.status = .running) :
    s.rs.status = .running := by
  apply Classical.byContradiction
  intro hs
  rw [applyPrim_stopped q s hs] at h
  exact hs h

theorem takeN_fst_sublist {α} (n : Nat) (l : List α) : (takeN n l).1.Sublist l := by
  have h := List.sublist_append_left (takeN n l).1 (takeN n l).2
  rwa [takeN_append] at h

theorem finOf_sublist (c : Choice) (l : List Job) : (finOf c l).Sublist l := enum_filter_sublist l _
theorem stayOf_sublist (c : Choice) (l : List Job) : (stayOf c l).Sublist l := enum_filter_sublist l _

/-- the pending / running map holds a future once: dropping it leaves none of its tid -/
theorem eraseP_tid_ne (t : Tid) : ∀ (l : List Job), (l.map Job.tid).Nodup →
    ∀ j ∈ l.eraseP (hasTid t), j.tid ≠ t := by
  intro l
  induction l with
  | nil => intro _ j hj; simp at hj
  | cons a l ih =>
    intro hnd j hj
    rw [List.map_cons, List.nodup_cons] at hnd
    rw [List.eraseP_cons] at hj
    cases ha : hasTid t a with
    | true =>
      simp only [ha, cond_true] at hj
      have hat : a.tid = t := by simpa [hasTid] using ha
      intro hjt
      exact hnd.1 (List.mem_map.mpr ⟨j, hj, by rw [hjt, hat]⟩)
    | false =>
      simp only [ha, cond_false] at hj
      rcases List.mem_cons.mp hj with rfl | hj
      · simpa [hasTid] using ha
      · exact ih hnd.2 j hj

theorem forkSnap_tid (r : List (Tid × Val)) (j : Job) : (forkSnap cfg r j).tid = j.tid := by
  unfold forkSnap; split <;> rfl

/-- every primitive of the consumer's loop body for `(t, o)` is one of nine shapes -/
theorem forall_mem_yieldPrims {P : Prim → Prop} (req : List Tid) (ts : TS) (t : Tid) (o : Outcome)
    (store : ∀ v, P (.storeResult t v)) (capture : ∀ v, P (.capture t v)) (mark : P (.markInstances t))
    (remAct : P (.removeActive t)) (unblock : ∀ d, P (.unblockOne t d)) (release : ∀ d, P (.releaseOne t d))
    (remRes : ∀ d, P (.removeResult d)) (remDone : ∀ rem, P (.removeDone rem))
    (raise : cfg.contOnFail = false → P (.raiseLabError t)) :
    ∀ q ∈ yieldPrims cfg req ts t o, P q := by
  have hc : ∀ q ∈ completePrims ts t, P q := by
    intro q hq
    simp only [completePrims, List.mem_append, List.mem_singleton, List.mem_map] at hq
    rcases hq with (rfl | ⟨d, _, rfl⟩) | ⟨d, _, rfl⟩
    · exact remAct
    · exact unblock d
    · exact release d
  have hr : ∀ q ∈ removePrims (remOf ts t), P q := by
    intro q hq
    simp only [removePrims, List.mem_append, List.mem_map, List.mem_singleton] at hq
    rcases hq with ⟨d, _, rfl⟩ | rfl
    · exact remRes d
    · exact remDone _
  have hfail : ∀ q ∈ completePrims ts t ++
      (if cfg.contOnFail then removePrims (remOf ts t) else [Prim.raiseLabError t]), P q := by
    intro q hq
    rcases List.mem_append.mp hq with hq | hq
    · exact hc q hq
    · split at hq
      · exact hr q hq
      · next hcf => rw [List.mem_singleton.mp hq]; exact raise (by simpa using hcf)
  intro q hq
  cases o with
  | ok v =>
    simp only [yieldPrims, List.mem_append, List.mem_singleton] at hq
    rcases hq with (((rfl | hq) | rfl) | hq) | hq
    · exact store v
    · split at hq
      · rw [List.mem_singleton.mp hq]; exact capture v
      · cases hq
    · exact mark
    · exact hc q hq
    · exact hr q hq
  | exc => exact hfail q hq
  | died => exact hfail q hq

/-- the result and dead-process drains of `ProcessExecutor.wait` -/
theorem forall_consume_dead {P : Prim → Prop} {c : Choice} {s : IS} (hc : P (.consumeResults c))
    (hd : ∀ t, P (.markDead t)) : ∀ q ∈ Prim.consumeResults c :: deadPrims s, P q := by
  intro q hq
  simp only [List.mem_cons, deadPrims, List.mem_map] at hq
  rcases hq with rfl | ⟨t, _, rfl⟩
  · exact hc
  · exact hd t

theorem startPrims_cons (j : Job) (go : List Job) : startPrims (j :: go) =
    [Prim.procStart j.tid, Prim.regRunning j.tid, Prim.unregPending j.tid] ++ startPrims go := by
  simp [startPrims]

theorem mem_startPrims {js : List Job} {q : Prim} (h : q ∈ startPrims js) :
    ∃ j ∈ js, q = .procStart j.tid ∨ q = .regRunning j.tid ∨ q = .unregPending j.tid := by
  simpa only [startPrims, List.mem_flatMap, List.mem_cons, List.not_mem_nil, or_false] using h

/-- the three statements of one round of `_start_processes`' loop -/
theorem forall_mem_startPrims {P : Prim → Prop}
    (h : ∀ t, P (.procStart t) ∧ P (.regRunning t) ∧ P (.unregPending t)) (js : List Job) :
    ∀ q ∈ startPrims js, P q := by
  intro q hq
  obtain ⟨j, _, rfl | rfl | rfl⟩ := mem_startPrims hq
  · exact (h _).1
  · exact (h _).2.1
  · exact (h _).2.2

/-- one `process_completed_tasks()` call, case by case: the serial runner with an empty deque, the serial
    runner's `popleft` .. `save` + pop + loop body, the process runner's four phases. The states between the
    phases are variables, so that a proof about the call never carries their definitions around. -/
theorem waitPrims_cases {motive : List Prim → Prop} (req : List Tid) (c : Choice) (s : IS)
    (idle : cfg.backend = .serial → s.rs.queued = [] → motive [.popDeque])
    (head : cfg.backend = .serial → ∀ j rest o, s.rs.queued = j :: rest →
      o = runOutcome p s.rs.ts s.rs.store { j with snap := some s.rs.results } →
      motive ([Prim.popDeque, .serialRun, .serialSaveBegin, .serialSaveEnd] ++
        Prim.popFuture j.tid (some o) :: yieldPrims cfg req s.rs.ts j.tid o))
    (proc : cfg.backend ≠ .serial → ∀ s0 s1 s2, s0 = applyPrim cfg p (.consumeResults c) s →
      s1 = runPrims cfg p (deadPrims s0) s0 → s2 = runPrims cfg p (startProcessesPrims cfg s1) s1 →
      motive ((Prim.consumeResults c :: deadPrims s0) ++ startProcessesPrims cfg s1 ++
        donePrims cfg p req s2.rs.futs s2)) :
    motive (waitPrims cfg p req c s) := by
  unfold waitPrims
  split
  · next hb =>
    split
    · next hq => exact idle hb hq
    · next j rest hq => exact head hb j rest _ hq rfl
  · next hb => exact proc hb _ _ _ rfl rfl rfl

theorem donePrims_cons_running (req : List Tid) (t : Tid) (rest : List Tid) (s : IS)
    (h : s.rs.status = .running) :
    donePrims cfg p req (t :: rest) s =
      doneOnePrims cfg req s t ++ donePrims cfg p req rest (runPrims cfg p (doneOnePrims cfg req s t) s) := by
  conv => lhs; unfold donePrims
  split
  · rfl
  · next h' => exact absurd h (by intro hh; exact h' hh)

theorem donePrims_stopped (req : List Tid) (cands : List Tid) (s : IS)
    (h : s.rs.status ≠ .running) : donePrims cfg p req cands s = [] := by
  cases cands with
  | nil => rfl
  | cons t rest =>
    unfold donePrims
    cases hs : s.rs.status <;> simp_all

theorem drainPrims_stopped (req : List Tid) (ds : List Choice) (s : IS) (h : s.rs.status ≠ .running) :
    drainPrims cfg p req ds s = [] := by
  cases ds with
  | nil => rfl
  | cons c cs => unfold drainPrims; cases hs : s.rs.status <;> simp_all

def IS.setTS (s : IS) (ts : TS) : IS := { s with rs := { s.rs with ts := ts } }

@[simp] theorem IS.setTS_self (s : IS) : s.setTS s.rs.ts = s := rfl
@[simp] theorem IS.setTS_status (s : IS) (ts : TS) : (s.setTS ts).rs.status = s.rs.status := rfl
@[simp] theorem IS.setTS_ts (s : IS) (ts : TS) : (s.setTS ts).rs.ts = ts := rfl
@[simp] theorem IS.setTS_setTS (s : IS) (a b : TS) : (s.setTS a).setTS b = s.setTS b := rfl

theorem unblock_refine (t : Tid) : ∀ (ds : List Tid) (s : IS) (pd' : Tid → List Tid),
    s.rs.status = .running → unblock t ds s.rs.ts.pendDeps = some pd' →
    runPrims cfg p (ds.map (Prim.unblockOne t)) s = s.setTS { s.rs.ts with pendDeps := pd' } := by
  intro ds
  induction ds with
  | nil =>
    intro s pd' _ h
    simp only [unblock, Option.some.injEq] at h
    subst h; rfl
  | cons d ds ih =>
    intro s pd' hrun h
    simp only [unblock] at h
    cases hr : setRemove (s.rs.ts.pendDeps d) t with
    | none => simp [hr] at h
    | some l =>
      simp only [hr] at h
      simp only [List.map_cons, runPrims_cons, applyPrim_running _ _ hrun, stepPrim, hr]
      have := ih (s.setTS { s.rs.ts with pendDeps := upd s.rs.ts.pendDeps d l }) pd' hrun h
      simpa [IS.setTS] using this

theorem release_refine (t : Tid) : ∀ (ds : List Tid) (s : IS) (pdt' : Tid → List Tid) (rem : List Tid),
    s.rs.status = .running → release t ds s.rs.ts.pendDependents = some (pdt', rem) →
    runPrims cfg p (ds.map (Prim.releaseOne t)) s = s.setTS { s.rs.ts with pendDependents := pdt' } := by
  intro ds
  induction ds with
  | nil =>
    intro s pdt' rem _ h
    simp only [release, Option.some.injEq, Prod.mk.injEq] at h
    obtain ⟨h, _⟩ := h
    subst h; rfl
  | cons d ds ih =>
    intro s pdt' rem hrun h
    simp only [release] at h
    cases hr : setRemove (s.rs.ts.pendDependents d) t with
    | none => simp [hr] at h
    | some l =>
      simp only [hr] at h
      cases hrel : release t ds (upd s.rs.ts.pendDependents d l) with
      | none => simp [hrel] at h
      | some r =>
        obtain ⟨pdt2, rem2⟩ := r
        simp only [hrel, Option.some.injEq, Prod.mk.injEq] at h
        obtain ⟨h1, _⟩ := h
        subst h1
        simp only [List.map_cons, runPrims_cons, applyPrim_running _ _ hrun, stepPrim, hr]
        have := ih (s.setTS { s.rs.ts with pendDependents := upd s.rs.ts.pendDependents d l }) pdt2 rem2 hrun hrel
        simpa [IS.setTS] using this

theorem complete_refine (s : IS) (ts0 : TS) (t : Tid) (ts' : TS) (rem : List Tid)
    (hrun : s.rs.status = .running) (hts : s.rs.ts = ts0) (h : completeTask ts0 t = some (ts', rem)) :
    runPrims cfg p (completePrims ts0 t) s = s.setTS ts' := by
  subst hts
  simp only [completeTask] at h
  cases ha : setRemove s.rs.ts.active t with
  | none => simp [ha] at h
  | some act =>
    simp only [ha] at h
    cases hu : unblock t (s.rs.ts.pendDependents t) s.rs.ts.pendDeps with
    | none => simp [hu] at h
    | some pd =>
      simp only [hu] at h
      cases hr : release t (s.rs.ts.ddeps t) s.rs.ts.pendDependents with
      | none => simp [hr] at h
      | some r =>
        obtain ⟨pdt, rem'⟩ := r
        simp only [hr, Option.some.injEq, Prod.mk.injEq] at h
        obtain ⟨h1, _⟩ := h
        subst h1
        simp only [completePrims, List.singleton_append, runPrims_cons,
          applyPrim_running _ _ hrun, stepPrim, ha, runPrims_append]
        have e1 := unblock_refine (cfg := cfg) (p := p) t (s.rs.ts.pendDependents t)
          (s.setTS { s.rs.ts with active := act }) pd hrun hu
        simp only [IS.setTS] at e1 ⊢
        rw [e1]
        have e2 := release_refine (cfg := cfg) (p := p) t (s.rs.ts.ddeps t)
          ((s.setTS { s.rs.ts with active := act }).setTS { s.rs.ts with active := act, pendDeps := pd })
          pdt rem' hrun hr
        simp only [IS.setTS] at e2 ⊢
        rw [e2]

end Lt
