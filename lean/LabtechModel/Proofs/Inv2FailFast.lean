import LabtechModel.Proofs.Inv2Ref
/-!
# C10, fail-fast clause, whole runs: the value invariant WITHOUT `continue_on_failure`

`ValInv` (`Proofs/Inv2Ref.lean`) contains `status = running`, which a fail-fast coordinator loses at the
first failure. The induction over the loop is carried out for an arbitrary configuration and arbitrary
failing / dying tasks; `loopHead_val` (`contOnFail = true ∨ NoFailure`: never raised) is a corollary. The
loop-head invariant `FFInv` is a disjunction:

* the coordinator is running, `ValInv` holds and (`AllOk`) every outcome handed over so far was a
  success unless failures are tolerated; or
* (`RaisedAt`) `contOnFail = false`, the status is `raised (labError t)`, the trace ENDS with the
  yield `(t, o)`, `o` is a failure and is the reference outcome of `t`, and every yield before it is
  a success and the reference outcome of its task.

Once `RaisedAt` holds nothing changes any more (`processYields` / `runLoop` are the identity on a
raised state).
-/
namespace Lt
variable {cfg : Config} {p : Problem} {obj : Tid → Iid} {store0 : Store} {fuel : Nat} {req : List Tid}

/-- every outcome handed over so far was a success, unless failures are tolerated -/
def AllOk (cfg : Config) (rs : RS) : Prop :=
  cfg.contOnFail = true ∨ ∀ t o, Ev.yield t o ∈ rs.trace → ∃ v, o = .ok v

/-- the state right after the first failure was handed to a fail-fast coordinator -/
def RaisedAt (cfg : Config) (p : Problem) (obj : Tid → Iid) (store0 : Store) (rs : RS) : Prop :=
  cfg.contOnFail = false ∧ ∃ t o pre, rs.status = .raised (.labError t) ∧
    rs.trace = pre ++ [Ev.yield t o] ∧ (o = .exc ∨ o = .died) ∧
    o = refOutcome cfg p store0 obj t ∧
    ∀ t' o', Ev.yield t' o' ∈ pre → o' = refOutcome cfg p store0 obj t' ∧ ∃ v, o' = .ok v

/-- the loop-head invariant for an arbitrary configuration -/
def FFInv (cfg : Config) (p : Problem) (obj : Tid → Iid) (store0 : Store) (req : List Tid)
    (extra : List Tid) (rs : RS) : Prop :=
  (ValInv cfg p obj store0 req extra rs ∧ AllOk cfg rs) ∨ RaisedAt cfg p obj store0 rs

theorem AllOk.transfer {rs rs' : RS} (h : AllOk cfg rs) (l : List Ev)
    (htr : rs'.trace = rs.trace ++ l) (hny : ∀ e ∈ l, evYield e = none) : AllOk cfg rs' := by
  rcases h with h | h
  · exact Or.inl h
  · right
    intro t o ho
    rw [htr, mem_yield_append_ny _ _ hny] at ho
    exact h t o ho

theorem startProcesses_allOk {rs : RS} (h : AllOk cfg rs) :
    AllOk cfg (startProcesses cfg rs) := by
  obtain ⟨go, stay, _, hsp⟩ := startProcesses_shape cfg rs
  rw [hsp]
  exact h.transfer _ rfl (fun e he => ((quiet_starts _) e he).1)

theorem submitStep_allOk {rs : RS} {t : Tid} (h : AllOk cfg rs) :
    AllOk cfg (submitTask cfg p { rs with ts := startedTS rs.ts t } t) := by
  have hbase : AllOk cfg (submitState rs t (newJob cfg p rs t) (useCache cfg p rs.store t)) := by
    refine h.transfer [Ev.submit t (useCache cfg p rs.store t)] rfl ?_
    intro e he; simp only [List.mem_singleton] at he; subst he; rfl
  simp only [submitTask]
  split
  · exact hbase
  · exact startProcesses_allOk hbase

/-- a failure handed to a fail-fast coordinator: the yield is the last event and the status is the
    `LabError` of that task -/
theorem processYield_failfast (cfg : Config) (req : List Tid) (rs : RS) (t : Tid) (o : Outcome)
    (ho : o = .exc ∨ o = .died) (hcf : cfg.contOnFail = false) (s' : TS) (rem : List Tid)
    (hct : completeTask rs.ts t = some (s', rem)) :
    (processYield cfg req rs t o).status = .raised (.labError t) ∧
    (processYield cfg req rs t o).trace = rs.trace ++ [Ev.yield t o] := by
  rcases ho with h | h <;> subst h <;> simp [processYield, hct, hcf]

theorem processYields_raised (cfg : Config) (req : List Tid) (ys : List (Tid × Outcome)) (rs : RS)
    (e : Err) (h : rs.status = .raised e) : processYields cfg req ys rs = rs := by
  cases ys with
  | nil => rfl
  | cons y ys => obtain ⟨t, o⟩ := y; simp [processYields, h]

theorem runLoop_raised (cfg : Config) (p : Problem) (req : List Tid) (sched : List Choice) (rs : RS)
    (e : Err) (h : rs.status = .raised e) : runLoop cfg p req sched rs = rs := by
  cases sched with
  | nil => rfl
  | cons c cs => simp [runLoop, h]

theorem yieldStep_ff {extra : List Tid} {rs : RS} {t : Tid} (o : Outcome)
    (hc : Core p (plan cfg p store0 fuel) rs) (he : Exec cfg (plan cfg p store0 fuel) (t :: extra) rs)
    (hr : ValInv cfg p obj store0 req (t :: extra) rs) (ha : AllOk cfg rs)
    (ho : o = refOutcome cfg p store0 obj t) :
    FFInv cfg p obj store0 req extra
      (processYield cfg req { rs with futs := rs.futs.filter (· ≠ t) } t o) := by
  have hok_or : (cfg.contOnFail = true ∨ ∃ v, o = .ok v) ∨
      (cfg.contOnFail = false ∧ (o = .exc ∨ o = .died)) := by
    cases hcf : cfg.contOnFail with
    | true => exact Or.inl (Or.inl rfl)
    | false =>
      cases o with
      | ok v => exact Or.inl (Or.inr ⟨v, rfl⟩)
      | exc => exact Or.inr ⟨rfl, Or.inl rfl⟩
      | died => exact Or.inr ⟨rfl, Or.inr rfl⟩
  rcases hok_or with hok | ⟨hcf, hfail⟩
  · left
    refine ⟨yieldStep_val o hc he hr ho hok, ?_⟩
    rcases ha with ha | ha
    · exact Or.inl ha
    · rcases hok with hok | ⟨v, hv⟩
      · exact Or.inl hok
      · right
        intro t' o' h'
        rcases (processYield_mem_yield cfg req _ t o t' o').mp h' with h1 | ⟨_, h2⟩
        · exact ha t' o' h1
        · exact ⟨v, h2.trans hv⟩
  · right
    have htF : t ∈ rs.futs := he.perm.mem_iff.mp (by simp)
    have htA : t ∈ rs.ts.active := (hc.futsAct t).mp htF
    obtain ⟨s', rem, hct, _⟩ := completeTask_TSInv _ (plan_PI cfg p store0 fuel) _ rs.ts t hc.ts htA
    obtain ⟨hst, htr⟩ := processYield_failfast cfg req { rs with futs := rs.futs.filter (· ≠ t) } t o
      hfail hcf s' rem hct
    refine ⟨hcf, t, o, rs.trace, hst, htr, hfail, ho, ?_⟩
    intro t' o' h'
    refine ⟨hr.yOk t' o' h', ?_⟩
    rcases ha with ha | ha
    · rw [hcf] at ha; cases ha
    · exact ha t' o' h'

theorem processYields_ff :
    ∀ (ys : List (Tid × Outcome)) (rs : RS), Core p (plan cfg p store0 fuel) rs →
      Exec cfg (plan cfg p store0 fuel) (ys.map Prod.fst) rs →
      ValInv cfg p obj store0 req (ys.map Prod.fst) rs → AllOk cfg rs →
      (∀ y ∈ ys, y.2 = refOutcome cfg p store0 obj y.1) →
      FFInv cfg p obj store0 req [] (processYields cfg req ys rs) := by
  intro ys
  induction ys with
  | nil => intro rs _ _ hr ha _; exact Or.inl ⟨hr, ha⟩
  | cons y rest ih =>
    intro rs hc he hr ha hys
    obtain ⟨t, o⟩ := y
    have ho := hys (t, o) List.mem_cons_self
    simp only at ho
    simp only [processYields]
    split
    · rcases yieldStep_ff (t := t) (extra := rest.map Prod.fst) o hc he hr ha ho with ⟨hr', ha'⟩ | hR
      · obtain ⟨hc', he', _⟩ := yieldStep_inv (t := t) (extra := rest.map Prod.fst) req o
          (plan_PI cfg p store0 fuel) hc he hr.run
        exact ih _ hc' (he' hr'.run) hr' ha' (fun y hy => hys y (List.mem_cons_of_mem _ hy))
      · obtain ⟨_, t1, o1, pre, hst, _⟩ := id hR
        rw [processYields_raised cfg req rest _ _ hst]
        exact Or.inr hR
    · next hnr => exact absurd hr.run (by intro h; exact hnr h)

theorem waitSerial_ff {rs : RS} (H : RefHypF p obj) (hb : cfg.backend = .serial)
    (hc : Core p (plan cfg p store0 fuel) rs) (he : Exec cfg (plan cfg p store0 fuel) [] rs)
    (hf : FlagInv cfg p store0 [] rs)
    (hr : ValInv cfg p obj store0 req [] rs) (ha : AllOk cfg rs) :
    FFInv cfg p obj store0 req [] (waitSerial cfg p req rs) := by
  cases hq : rs.queued with
  | nil =>
    rw [waitSerial_nil cfg p req rs hq]
    have hny := fun e he' => (quiet_waitEnter (rs.queued.map Job.tid) [] e he').1
    exact Or.inl ⟨hr.transfer [Ev.waitEnter (rs.queued.map Job.tid) []] rfl hny rfl rfl hr.stoDone,
      ha.transfer [Ev.waitEnter (rs.queued.map Job.tid) []] rfl hny⟩
  | cons j rest =>
    rw [waitSerial_cons cfg p req rs j rest hq]
    obtain ⟨hcA, heA⟩ := serialPre_inv (plan_PI cfg p store0 fuel) hc he j rest hq
    exact yieldStep_ff _ hcA heA (serialPre_val H hb hc he hf hr j rest hq)
      (ha.transfer (serialEvs p rs j) (serialPre_trace p rs j rest)
        (fun e he' => ((serialEvs_quiet p rs j) e he').1))
      (serialOutcome_refF H hb hc he hf hr j rest hq)

theorem waitProcess_ff {rs : RS} (H : RefHypF p obj) (c : Choice) (hb : cfg.backend ≠ .serial)
    (hc : Core p (plan cfg p store0 fuel) rs) (he : Exec cfg (plan cfg p store0 fuel) [] rs)
    (hf : FlagInv cfg p store0 [] rs)
    (hr : ValInv cfg p obj store0 req [] rs) (ha : AllOk cfg rs) :
    FFInv cfg p obj store0 req [] (waitProcess cfg p req c rs) := by
  obtain ⟨hwp, hcA, heA, hperm, hfinNd⟩ := waitProcess_explicit req c hb hc he
  rw [hwp]
  obtain ⟨hcB, heB⟩ := startProcesses_inv (plan_PI cfg p store0 fuel) hb hcA heA
  apply processYields_ff _ _ hcB (heB.perm_extra hperm.symm)
    ((startProcesses_val (procPre_val H c hb hc he hf hr hfinNd)).perm_extra (fun t => hperm.symm.mem_iff))
    (startProcesses_allOk (ha.transfer (procEvs p c rs) (procPre_trace p c rs)
      (fun e he' => ((procEvs_quiet p c rs) e he').1)))
  intro y hy
  obtain ⟨j, hj, rfl⟩ := procYs_job p c rs y hy
  exact finOutcome_refF H c hb hc he hf hr j hj rs.store (finJobs_frame c hc he (hf.2 hr.run) j hj)

/-- what holds at every loop head, for every configuration -/
def LoopInv (cfg : Config) (p : Problem) (obj : Tid → Iid) (store0 : Store) (fuel : Nat) (rs : RS) : Prop :=
  Reach cfg p (plan cfg p store0 fuel) rs ∧ FlagInv cfg p store0 [] rs ∧
    FFInv cfg p obj store0 (reqTids p) [] rs

/-- a running state is not one that raised -/
theorem FFInv.running {req extra : List Tid}
    {rs : RS} (h : FFInv cfg p obj store0 req extra rs) (hrun : rs.status = .running) :
    ValInv cfg p obj store0 req extra rs ∧ AllOk cfg rs := by
  rcases h with hv | ⟨_, t1, o1, pre, hst, _⟩
  · exact hv
  · rw [hst] at hrun; cases hrun

theorem submitPhase_loopInv {rs : RS}
    (h : LoopInv cfg p obj store0 fuel rs) (hrun : rs.status = .running) :
    Core p (plan cfg p store0 fuel) (submitAll cfg p (readyTasks p rs.ts) rs) ∧
    Exec cfg (plan cfg p store0 fuel) [] (submitAll cfg p (readyTasks p rs.ts) rs) ∧
    (submitAll cfg p (readyTasks p rs.ts) rs).status = .running ∧
    FlagInv cfg p store0 [] (submitAll cfg p (readyTasks p rs.ts) rs) ∧
    ValInv cfg p obj store0 (reqTids p) [] (submitAll cfg p (readyTasks p rs.ts) rs) ∧
    AllOk cfg (submitAll cfg p (readyTasks p rs.ts) rs) := by
  obtain ⟨hR, hf, hff⟩ := h
  obtain ⟨hr, ha⟩ := hff.running hrun
  obtain ⟨hc, he, hst, _, hI⟩ := submitPhase_inv (plan_PI cfg p store0 fuel)
    (fun rs => rs.status = .running ∧ FlagInv cfg p store0 [] rs ∧
      ValInv cfg p obj store0 (reqTids p) [] rs ∧ AllOk cfg rs)
    (fun _ _ hc _ ht h => ⟨by rw [submitTask_status]; exact h.1, submitStep_flag hc h.1 h.2.1 ht,
      submitStep_val h.2.2.1, submitStep_allOk h.2.2.2⟩)
    hR hrun ⟨hrun, hf, hr, ha⟩
  exact ⟨hc, he, hst, hI⟩

theorem iteration_loopInv (H : RefHypF p obj) (c : Choice) (rs : RS) (hrun : rs.status = .running)
    (h : LoopInv cfg p obj store0 fuel rs) :
    LoopInv cfg p obj store0 fuel (iteration cfg p (reqTids p) c rs) := by
  have hP := plan_PI cfg p store0 fuel
  refine ⟨iteration_reach _ hP c h.1 hrun, iteration_flag hP c h.1 hrun h.2.1, ?_⟩
  obtain ⟨hc, he, hst, hfS, hrS, haS⟩ := submitPhase_loopInv h hrun
  simp only [iteration, hst]
  split
  · next hb => exact waitSerial_ff H hb hc he hfS hrS haS
  · next hb => exact waitProcess_ff H c hb hc he hfS hrS haS

/-- with `continue_on_failure`, or when nothing fails, the coordinator never raises -/
theorem FFInv.val {extra : List Tid} {rs : RS}
    (hcf : cfg.contOnFail = true ∨ NoFailure cfg p store0 obj fuel)
    (hc : Core p (plan cfg p store0 fuel) rs) (h : FFInv cfg p obj store0 req extra rs) :
    ValInv cfg p obj store0 req extra rs := by
  rcases h with ⟨hr, _⟩ | ⟨hcf', t, o, pre, _, htr, hfail, ho, _⟩
  · exact hr
  · rcases hcf with h1 | h1
    · rw [hcf'] at h1; cases h1
    · have htY : t ∈ yielded rs := (mem_yieldedOf _ _).mpr ⟨o, by rw [htr]; simp⟩
      have hsome := h1 t ((hc.ts.cover t).mpr (Or.inr (Or.inr htY)))
      cases hv : refEvalF cfg p store0 obj t with
      | none => rw [hv] at hsome; cases hsome
      | some v =>
        rw [(refOutcome_ok_iff cfg p store0 obj t v).mpr hv] at ho
        rcases hfail with h | h <;> rw [h] at ho <;> cases ho

section
variable (cfg : Config) (p : Problem) (store : Store) (fuel : Nat) (sched : List Choice) (obj : Tid → Iid)

theorem initRS_loopInv (store : Store) (fuel : Nat) :
    LoopInv cfg p obj store fuel (initRS cfg p store fuel) :=
  ⟨initRS_reach cfg p store fuel, initRS_flag cfg p store fuel,
    Or.inl ⟨initRS_val cfg p obj store fuel, Or.inr (by intro t o h; simp [initRS] at h)⟩⟩

theorem loopHead_ff (H : RefHypF p obj) :
    FFInv cfg p obj store (reqTids p) [] (loopHead cfg p store fuel sched) :=
  (runLoop_ind (LoopInv cfg p obj store fuel) (fun c rs hrun _ => iteration_loopInv H c rs hrun) sched _
    (initRS_loopInv cfg p obj store fuel)).2.2

theorem loopHead_val (H : RefHypF p obj) (hcf : cfg.contOnFail = true ∨ NoFailure cfg p store obj fuel) :
    ValInv cfg p obj store (reqTids p) [] (loopHead cfg p store fuel sched) :=
  (loopHead_ff cfg p store fuel sched obj H).val hcf (reach_all cfg p store fuel sched).1

/-- every yield at a loop head is the reference outcome of its task (no `contOnFail` hypothesis) -/
theorem loopHead_yOk (H : RefHypF p obj) (t : Tid) (o : Outcome)
    (h : Ev.yield t o ∈ (loopHead cfg p store fuel sched).trace) :
    o = refOutcome cfg p store obj t := by
  rcases loopHead_ff cfg p store fuel sched obj H with ⟨hr, _⟩ | ⟨_, t1, o1, pre, _, htr, _, ho1, hpre⟩
  · exact hr.yOk t o h
  · rw [htr] at h
    rcases List.mem_append.mp h with h1 | h1
    · exact (hpre t o h1).1
    · simp only [List.mem_singleton, Ev.yield.injEq] at h1
      obtain ⟨h2, h3⟩ := h1
      subst h2; subst h3
      exact ho1

/-- a loop head that raised `LabError t`: the decomposition of its trace -/
theorem loopHead_raised (H : RefHypF p obj) (t : Tid)
    (h : (loopHead cfg p store fuel sched).status = .raised (.labError t)) :
    cfg.contOnFail = false ∧ ∃ o pre,
      (loopHead cfg p store fuel sched).trace = pre ++ [Ev.yield t o] ∧ (o = .exc ∨ o = .died) ∧
      o = refOutcome cfg p store obj t ∧
      (∀ t' o', Ev.yield t' o' ∈ pre → o' = refOutcome cfg p store obj t' ∧ ∃ v, o' = .ok v) ∧
      (∀ o', Ev.yield t o' ∉ pre) := by
  rcases loopHead_ff cfg p store fuel sched obj H with ⟨hr, _⟩ | ⟨hcf, t1, o1, pre, hst, htr, hfail, ho1, hpre⟩
  · rw [hr.run] at h; cases h
  · rw [hst] at h
    simp only [Status.raised.injEq, Err.labError.injEq] at h
    subst h
    refine ⟨hcf, o1, pre, htr, hfail, ho1, hpre, ?_⟩
    intro o' ho'
    have hnd := (reach_all cfg p store fuel sched).1.ts.ndY
    simp only [yielded] at hnd
    rw [htr] at hnd
    simp only [yieldedOf, List.filterMap_append, List.filterMap_cons, List.filterMap_nil, evYield] at hnd
    have hmem : t1 ∈ List.filterMap evYield pre := (mem_yieldedOf pre t1).mpr ⟨o', ho'⟩
    rw [List.nodup_append] at hnd
    exact hnd.2.2 t1 hmem t1 (by simp) rfl

/-- a running loop head: `ValInv` and all yields so far were tolerated -/
theorem loopHead_running_val (H : RefHypF p obj)
    (h : (loopHead cfg p store fuel sched).status = .running) :
    ValInv cfg p obj store (reqTids p) [] (loopHead cfg p store fuel sched) ∧
    AllOk cfg (loopHead cfg p store fuel sched) :=
  (loopHead_ff cfg p store fuel sched obj H).running h

/-- `run_tasks` raised exactly when the last loop head had raised -/
theorem run_raised_iff_loopHead (e : Err) :
    (run cfg p store fuel sched).status = .raised e ↔ (loopHead cfg p store fuel sched).status = .raised e := by
  have hfin : (run cfg p store fuel sched).status =
      (finish (reqTids p) (loopHead cfg p store fuel sched)).status := rfl
  rcases finish_status_cases (reqTids p) (loopHead cfg p store fuel sched) with h | ⟨hrun, _, r, hr⟩
  · rw [hfin, h]
  · rw [hfin, hr, hrun]; simp

/-- a run that returned: every planned task was yielded, the captured results of the requested
    tasks are their reference values (no fairness, no `contOnFail` hypothesis) -/
theorem run_returned_refF (H : RefHypF p obj) (hfuel : 0 < fuel ∨ p.requested = [])
    (r : List (Tid × Val)) (h : (run cfg p store fuel sched).status = .returned r) :
    (loopHead cfg p store fuel sched).status = .running ∧
    (∀ t, t ∈ (plan cfg p store fuel).pending ↔ t ∈ yielded (loopHead cfg p store fuel sched)) ∧
    r = (dedup (reqTids p)).filterMap (fun t => (refEvalF cfg p store obj t).map (fun v => (t, v))) := by
  have hc := (reach_all cfg p store fuel sched).1
  rcases finish_status_cases (reqTids p) (loopHead cfg p store fuel sched) with h' | ⟨hrun, hlc, _⟩
  · have : (loopHead cfg p store fuel sched).status = .returned r := by rw [← h']; exact h
    exact absurd this (hc.noRet r)
  · obtain ⟨hr, _⟩ := loopHead_running_val cfg p store fuel sched obj H hrun
    have hall := hc.all_yielded hlc
    refine ⟨hrun, hall, ?_⟩
    have hreq : ∀ t ∈ reqTids p,
        lookup t (loopHead cfg p store fuel sched).taskResults = refEvalF cfg p store obj t := by
      intro t ht
      obtain ⟨i, hi, rfl⟩ := List.mem_map.mp ht
      have hfuel' : 0 < fuel := by
        rcases hfuel with h0 | h0
        · exact h0
        · rw [h0] at hi; simp at hi
      obtain ⟨o, ho⟩ := (mem_yieldedOf _ _).mp
        ((hall _).mp (plan_requested_pending cfg p store fuel hfuel' i hi))
      have ho' := hr.yOk _ _ ho
      apply Option.ext
      intro v
      rw [hr.capture _ ht v, ← refOutcome_ok_iff]
      constructor
      · intro h; exact (hr.yOk _ _ h).symm
      · intro h; rw [← h, ← ho']; exact ho
    have hfin : (run cfg p store fuel sched).status =
        (finish (reqTids p) (loopHead cfg p store fuel sched)).status := rfl
    rw [hfin] at h
    simp only [finish, hrun, hlc] at h
    simp only [Bool.false_eq_true, if_false, Status.returned.injEq] at h
    rw [← h]
    apply filterMap_congr'
    intro t ht
    rw [hreq t ((mem_dedup _ _).mp ht)]

end

end Lt
