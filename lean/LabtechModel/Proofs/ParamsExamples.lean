import LabtechModel.Model.Params
/-! The parameter trees of the C07 examples, a stand-in digest, and the sha1 pre-images that several examples share. -/
namespace Lt.Params.C07
open Lt.Params

def exLeaf1 : Task := .mk ⟨"ptasks", "Leaf"⟩ [("x", .scalar (.int 1))]
def exLeafTrue : Task := .mk ⟨"ptasks", "Leaf"⟩ [("x", .scalar (.bool true))]
def exLeaf2 : Task := .mk ⟨"ptasks2", "Leaf"⟩ [("x", .scalar (.int 1))]
def exBox : Task := .mk ⟨"ptasks", "Box"⟩ [("a", .tuple [.task exLeaf1, .enum ⟨"ptasks", "Color"⟩ "RED"]),
  ("b", .dict [("_is_task", .scalar (.int 0)), ("k", .scalar (.float "1.0"))])]

/-- two tasks of one type that differ in one float parameter, `Leaf(x=1.5)` and `Leaf(x=1e+16)` -/
def exF1 : Task := .mk ⟨"ptasks", "Leaf"⟩ [("x", .scalar (.float "1.5"))]
def exF2 : Task := .mk ⟨"ptasks", "Leaf"⟩ [("x", .scalar (.float "1e+16"))]

/-- a stand-in digest: 40 characters, determined by the length of the input modulo 41 -/
def exSha (s : String) : String :=
  String.ofList (List.replicate (s.length % 41) 'a' ++ List.replicate (40 - s.length % 41) 'b')

/-- the number of `'a'`s in `exSha s` is the length of `s` modulo 41 -/
theorem exSha_length_mod {a b : String} (h : exSha a = exSha b) : a.length % 41 = b.length % 41 := by
  simpa [exSha, List.count_replicate] using congrArg (fun s => s.toList.count 'a') h

theorem exLeaf1_pre : cacheKeyPre exLeaf1 = "{\"_is_task\": true, \"__class__\": \"ptasks.Leaf\", \"x\": 1}" := by
  decide +kernel

theorem exF1_pre : cacheKeyPre exF1 = "{\"_is_task\": true, \"__class__\": \"ptasks.Leaf\", \"x\": 1.5}" := by
  decide +kernel

theorem exF2_pre : cacheKeyPre exF2 = "{\"_is_task\": true, \"__class__\": \"ptasks.Leaf\", \"x\": 1e+16}" := by
  decide +kernel

/-- the stand-in digest does not collide on the two pre-images: their lengths are 56 and 58 -/
theorem exF_sha (h : exSha (cacheKeyPre exF1) = exSha (cacheKeyPre exF2)) : cacheKeyPre exF1 = cacheKeyPre exF2 := by
  have h1 : (cacheKeyPre exF1).length = 56 := exF1_pre ▸ String.length_ofList
  have h2 : (cacheKeyPre exF2).length = 58 := exF2_pre ▸ String.length_ofList
  have := exSha_length_mod h
  rw [h1, h2] at this
  cases this

end Lt.Params.C07
