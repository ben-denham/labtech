import LabtechModel.Proofs.IntrAlive
import LabtechModel.Proofs.IntrTrace
/-!
# M10: `Tr` after every primitive of the handlers; after `stop()` nobody is alive; who was alive at the
interrupt is accounted for (`Acc`); the status is never `returned` inside the guarded region
-/
namespace Lt

variable {cfg : Config} {p : Problem}

theorem yieldPrims_noexec (req : List Tid) (ts : TS) (t : Tid) (o : Outcome) :
    ∀ q ∈ yieldPrims cfg req ts t o, q.touchesExec = false :=
  forall_mem_yieldPrims req ts t o (fun _ => rfl) (fun _ => rfl) rfl rfl (fun _ => rfl) (fun _ => rfl)
    (fun _ => rfl) (fun _ => rfl) (fun _ => rfl)

theorem always_Tr_done (req : List Tid) : ∀ (cands : List Tid) (s : IS), Tr cfg s →
    Always cfg p (Tr cfg) (donePrims cfg p req cands s) s :=
  (Always.isSeq _).doneOf (fun t s h hc => ⟨h, Tr_popFuture t none s h (Or.inl hc)⟩)
    (fun t o s h hd => ⟨h, always_Tr_untouched _ _ (yieldPrims_noexec req _ t o)
      (Tr_popFuture t (some o) s h (Or.inr (List.mem_map.mpr ⟨(t, o), hd, rfl⟩)))⟩)

/-- one `process_completed_tasks()` when nothing is queued any more -/
theorem always_Tr_wait (req : List Tid) (c : Choice) (s : IS) (h : Tr cfg s) (hq : s.rs.queued = []) :
    Always cfg p (Tr cfg) (waitPrims cfg p req c s) s := by
  refine waitPrims_cases (motive := fun ps => Always cfg p (Tr cfg) ps s) req c s ?_ ?_ ?_
  · intro _ _; exact ⟨h, Tr_popDeque s h⟩
  · intro _ j rest o hqe; rw [hq] at hqe; cases hqe
  · intro _ s0 s1 s2 h0 h1 h2
    have a1 : Always cfg p (Tr cfg) (deadPrims s0) s0 :=
      always_of_step _ s0 (fun q hq' s h => by obtain ⟨t, _, rfl⟩ := List.mem_map.mp hq'; exact Tr_markDead t s h)
        (h0 ▸ Tr_consume c s h)
    -- `_start_processes` finds nothing to start
    have hq1 : s1.rs.queued = [] := by
      rw [h1]
      refine runPrims_queued_nil _ _ (fun q hq' => ?_) (by rw [h0, applyPrim_queued _ _ rfl]; exact hq)
      obtain ⟨t, _, rfl⟩ := List.mem_map.mp hq'; rfl
    have hsp : startProcessesPrims cfg s1 = [] := by rw [startProcessesPrims, hq1, startPrims_nil_of]
    have e1 : runPrims cfg p (Prim.consumeResults c :: deadPrims s0) s = s1 := by rw [h1, h0]; rfl
    have e2 : s2 = s1 := by rw [h2, hsp]; rfl
    rw [hsp, List.append_nil, always_append, e1, e2]
    exact ⟨⟨h, h0 ▸ a1⟩, always_Tr_done req _ _ (h1 ▸ a1.last)⟩

theorem always_Tr_drain (req : List Tid) : ∀ (ds : List Choice) (s : IS), Tr cfg s → s.rs.queued = [] →
    Always cfg p (Tr cfg) (drainPrims cfg p req ds s) s := by
  intro ds
  induction ds with
  | nil => intro s h _; exact h
  | cons c cs ih =>
    intro s h hq
    unfold drainPrims
    split
    · split
      · exact h
      · have a := always_Tr_wait (cfg := cfg) (p := p) req c s h hq
        rw [always_append]
        exact ⟨a, ih _ a.last (runPrims_queued_nil _ s
          (fun q hq' => (members_wait HOK_gen req c s (fun hne => absurd hq hne) q hq').1) hq)⟩
    · exact h

theorem always_Tr_cancelList : ∀ (l : List Job) (s : IS), Tr cfg s →
    (∀ j ∈ l, j.tid ∉ s.rs.running.map Job.tid) →
    Always cfg p (Tr cfg) (l.map (fun j => Prim.cancelOne j.tid)) s := by
  intro l
  induction l with
  | nil => intro s h _; exact h
  | cons j l ih =>
    intro s h hg
    refine ⟨h, ih _ (Tr_cancelOne j.tid s h (hg j List.mem_cons_self)) ?_⟩
    have : (applyPrim cfg p (Prim.cancelOne j.tid) s).rs.running = s.rs.running := by
      unfold applyPrim; split <;> rfl
    rw [this]
    exact fun j' hj' => hg j' (List.mem_cons_of_mem _ hj')

theorem always_Tr_cancel (s : IS) (h : Tr cfg s) : Always cfg p (Tr cfg) (cancelPrims cfg s) s := by
  simp only [cancelPrims]
  split
  · next hb => exact ⟨h, Tr_clearDeque s h hb⟩
  · exact always_Tr_cancelList _ s h h.queuedNotRun

theorem always_Tr_handler (req : List Tid) (ds : List Choice) (s : IS) (h : Tr cfg s) :
    Always cfg p (Tr cfg) (handlerPrims cfg p req ds s) s := by
  simp only [handlerPrims, always_append]
  have a := always_Tr_cancel (cfg := cfg) (p := p) s h
  refine ⟨a, ?_⟩
  by_cases hrun : s.rs.status = .running
  · exact always_Tr_drain req ds _ a.last (cancelPrims_empties s hrun)
  · rw [runPrims_stopped _ _ hrun, drainPrims_stopped req ds s hrun]; exact h

theorem always_Tr_stop (s : IS) (h : Tr cfg s) : Always cfg p (Tr cfg) (stopPrims cfg s) s :=
  always_of_step _ s (fun q hq s h => by obtain ⟨t, rfl⟩ := mem_stopPrims hq; exact Tr_stopOne t s h) h

theorem stop_running_nil : ∀ (l : List Job) (s : IS), s.rs.status = .running → s.rs.running = l →
    (runPrims cfg p (l.map (fun j => Prim.stopOne j.tid)) s).rs.running = [] := by
  intro l
  induction l with
  | nil => intro s _ h; exact h
  | cons j l ih =>
    intro s hrun h
    rw [List.map_cons, runPrims_cons]
    apply ih
    · rw [applyPrim_status _ _ rfl]; exact hrun
    · simp [applyPrim_running _ _ hrun, stepPrim, h, hasTid]

theorem stopOne_running_nil : ∀ (l : List Tid) (s : IS), s.rs.running = [] →
    (runPrims cfg p (l.map Prim.stopOne) s).rs.running = [] := by
  intro l
  induction l with
  | nil => intro s h; exact h
  | cons t l ih =>
    intro s h
    rw [List.map_cons, runPrims_cons]
    apply ih
    unfold applyPrim
    split
    · simp [stepPrim, h]
    · exact h

theorem stopPrims_empties (s : IS) (hrun : s.rs.status = .running) (hb : cfg.backend ≠ .serial) :
    (runPrims cfg p (stopPrims cfg s) s).rs.running = [] := by
  simp only [stopPrims, hb, if_false, runPrims_append]
  exact stopOne_running_nil _ _ (stop_running_nil _ s hrun rfl)

theorem applyPrim_alive_nil (q : Prim) (s : IS) (hq : q.launches = false) (h : s.alive = []) :
    (applyPrim cfg p q s).alive = [] := by
  refine applyPrim_of_step (R := fun _ s' => s'.alive = []) q s h ?_
  by_cases ha : q.touchesAlive = false
  · rw [(stepPrim_alive q s ha).1]; exact h
  · cases q
    case procStart => exact Bool.noConfusion hq
    case consumeResults => simp only [stepPrim, h, List.filter_nil]
    case stopOne => simp only [stepPrim, h, List.filter_nil, ite_self]
    all_goals exact absurd rfl ha

/-- alive, or terminated by `stop()`, or died by itself, or ran to completion (its record is in the
    trace; the consumed report implies its save was done) -/
def Acc (p : Problem) (A0 : List Tid) (s : IS) : Prop :=
  ∀ t ∈ A0, t ∈ s.alive ∨ t ∈ s.terminated ∨ p.dies t = true ∨ t ∈ ranOf s.rs.trace

def Prim.reaps : Prim → Bool
  | .consumeResults _ | .stopOne _ => true
  | _ => false

theorem alive_term_mono (q : Prim) (s : IS) (h : q.reaps = false) :
    (∀ t ∈ s.alive, t ∈ (applyPrim cfg p q s).alive) ∧ (applyPrim cfg p q s).terminated = s.terminated := by
  refine applyPrim_of_step (R := fun s s' => (∀ t ∈ s.alive, t ∈ s'.alive) ∧ s'.terminated = s.terminated) q s
    ⟨fun _ ht => ht, rfl⟩ ?_
  by_cases ha : q.touchesAlive = false
  · obtain ⟨e1, e2⟩ := stepPrim_alive q s ha
    exact ⟨fun t ht => e1 ▸ ht, e2⟩
  · cases q
    case procStart => exact ⟨fun t ht => List.mem_append_left _ ht, rfl⟩
    case consumeResults | stopOne => exact Bool.noConfusion h
    all_goals exact absurd rfl ha

theorem applyPrim_Acc (A0 : List Tid) (q : Prim) (s : IS) (h : Acc p A0 s) : Acc p A0 (applyPrim cfg p q s) := by
  obtain ⟨l, hl, -⟩ := trace_ext q s
  have hran : ∀ t, t ∈ ranOf s.rs.trace → t ∈ ranOf (applyPrim cfg p q s).rs.trace := by
    intro t ht; rw [hl, ranOf_append]; exact List.mem_append_left _ ht
  by_cases hr : q.reaps = false
  · obtain ⟨h1, h2⟩ := alive_term_mono q s hr
    intro t ht
    rcases h t ht with h' | h' | h' | h'
    · exact Or.inl (h1 t h')
    · exact Or.inr (Or.inl (by rw [h2]; exact h'))
    · exact Or.inr (Or.inr (Or.inl h'))
    · exact Or.inr (Or.inr (Or.inr (hran t h')))
  · by_cases hrun : ¬ s.rs.status = .running
    · rw [applyPrim_stopped _ _ hrun]; exact h
    have hrun : s.rs.status = .running := Decidable.not_not.mp hrun
    intro t ht
    rcases h t ht with h' | h' | h' | h'
    · cases q
      case consumeResults c =>
        by_cases hf : t ∈ (finOf c s.rs.running).map Job.tid
        · obtain ⟨j, hj, rfl⟩ := List.mem_map.mp hf
          by_cases hd : p.dies j.tid = true
          · exact Or.inr (Or.inr (Or.inl hd))
          · right; right; right
            simp only [applyPrim_running _ _ hrun, stepPrim, ranOf_append]
            apply List.mem_append_right
            have : j.tid ∈ ranOf (jobEvents p s.rs.ts j) := by rw [ranOf_jobEvents]; simp [hd]
            simp only [ranOf, List.mem_filterMap] at this ⊢
            obtain ⟨e, he, hev⟩ := this
            exact ⟨e, List.mem_flatten.mpr ⟨_, List.mem_map.mpr ⟨j, hj, rfl⟩, he⟩, hev⟩
        · left
          simp only [applyPrim_running _ _ hrun, stepPrim, List.mem_filter, decide_eq_true_eq]
          exact ⟨h', hf⟩
      case stopOne t' =>
        simp only [applyPrim_running _ _ hrun, stepPrim]
        by_cases hany : s.rs.running.any (hasTid t') = true
        · simp only [hany, if_true]
          by_cases he : t = t'
          · exact Or.inr (Or.inl (by simp [he]))
          · exact Or.inl (by simp [h', he])
        · simp only [hany]
          exact Or.inl (by simpa using h')
      all_goals exact absurd rfl hr
    · right; left
      cases q
      case consumeResults c => simp only [applyPrim_running _ _ hrun, stepPrim]; exact h'
      case stopOne t' =>
        simp only [applyPrim_running _ _ hrun, stepPrim]
        split
        · exact List.mem_append_left _ h'
        · exact h'
      all_goals exact absurd rfl hr
    · exact Or.inr (Or.inr (Or.inl h'))
    · exact Or.inr (Or.inr (Or.inr (hran t h')))

/-- when nobody is alive any more, everybody is accounted for otherwise -/
theorem Acc.accounted {A0 : List Tid} {s : IS} (h : Acc p A0 s) (hal : s.alive = []) :
    ∀ t ∈ A0, t ∈ s.terminated ∨ p.dies t = true ∨ t ∈ ranOf s.rs.trace :=
  fun t ht => (h t ht).resolve_left (by rw [hal]; exact List.not_mem_nil)

theorem runPrims_Acc (A0 : List Tid) (ps : List Prim) (s : IS) (h : Acc p A0 s) : Acc p A0 (runPrims cfg p ps s) :=
  (always_of_step ps s (fun q _ s => applyPrim_Acc A0 q s) h).last

def NoRet (s : IS) : Prop := ∀ r, s.rs.status ≠ .returned r

theorem applyPrim_NoRet (q : Prim) (s : IS) (h : NoRet s) : NoRet (applyPrim cfg p q s) := by
  refine applyPrim_of_step (R := fun _ s' => NoRet s') q s h (fun r hr => ?_)
  rcases stepPrim_status q s with h1 | h1 | ⟨t, rfl⟩
  · exact h r (h1 ▸ hr)
  · rw [h1] at hr; cases hr
  · cases hr

theorem runPrims_NoRet (ps : List Prim) (s : IS) (h : NoRet s) : NoRet (runPrims cfg p ps s) :=
  (always_of_step ps s (fun q _ s => applyPrim_NoRet q s) h).last

theorem handlerOutcome_interrupted (s : IS) (d : Bool) (h : handlerOutcome s d = .interrupted) :
    d = true ∧ ∀ e, s.rs.status ≠ .raised e := by
  unfold handlerOutcome at h
  cases hs : s.rs.status with
  | raised e => simp [hs] at h
  | running => cases d <;> simp [hs] at h ⊢
  | returned r => cases d <;> simp [hs] at h ⊢

theorem Tr.no_alive_of_drained {s : IS} (h : Tr cfg s) (hf : s.rs.futs = []) : s.alive = [] := by
  have hr : s.rs.running = [] := by
    cases hq : s.rs.running with
    | nil => rfl
    | cons j l =>
      have := h.runFut j (by rw [hq]; exact List.mem_cons_self)
      rw [hf] at this; simp at this
  cases ha : s.alive with
  | nil => rfl
  | cons t l =>
    have := h.aliveRun t (by rw [ha]; exact List.mem_cons_self)
    rw [hr] at this; simp at this

theorem Tr.no_alive_of_norun {s : IS} (h : Tr cfg s) (hr : s.rs.running = []) : s.alive = [] := by
  cases ha : s.alive with
  | nil => rfl
  | cons t l =>
    have := h.aliveRun t (by rw [ha]; exact List.mem_cons_self)
    rw [hr] at this; simp at this

theorem second_no_alive (req : List Tid) (s : IS) (h : Tr cfg s) (hrun : s.rs.status = .running) :
    (runPrims cfg p (secondPrims cfg p req s) s).alive = [] := by
  simp only [secondPrims, runPrims_append]
  have a := always_Tr_cancel (cfg := cfg) (p := p) s h
  have hq1 := cancelPrims_empties (cfg := cfg) (p := p) s hrun
  have hr1 : (runPrims cfg p (cancelPrims cfg s) s).rs.status = .running := by
    rw [runPrims_keep (fun s => s.rs.status) _ s (fun q hq s => by
      rcases mem_cancelPrims hq with rfl | ⟨t, rfl⟩ <;> exact applyPrim_status _ s rfl)]
    exact hrun
  have b := always_Tr_stop (cfg := cfg) (p := p) _ a.last
  have hrun0 : (runPrims cfg p (stopPrims cfg (runPrims cfg p (cancelPrims cfg s) s))
      (runPrims cfg p (cancelPrims cfg s) s)).rs.running = [] := by
    by_cases hb : cfg.backend = .serial
    · exact b.last.serial hb
    · exact stopPrims_empties _ hr1 hb
  have hal := b.last.no_alive_of_norun hrun0
  have hq2 := runPrims_queued_nil (cfg := cfg) (p := p) (stopPrims cfg (runPrims cfg p (cancelPrims cfg s) s)) _
    (fun q' hq' => (stopPrims_nolaunch _ q' hq').1) hq1
  exact (always_of_step _ _ (fun q hq s => applyPrim_alive_nil q s
    (members_wait HOK_gen req noWait _ (fun hne => absurd hq2 hne) q hq).1) hal).last

end Lt
