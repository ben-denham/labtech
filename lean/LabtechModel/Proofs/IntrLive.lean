import LabtechModel.Proofs.IntrCover
/-!
# M10: the drain loop of the first handler ends under a fair drain schedule

One drain round (`process_completed_tasks()` with nothing queued) pops every future that is
cancelled, holds an outcome or belongs to a dead process; what stays tracked is in the running map.
A fair round makes at least the first running worker report, so the running map shrinks; after at
most `len(running) + 1` fair rounds `future_to_task` is empty (or an exception propagates).
-/
namespace Lt

variable {cfg : Config} {p : Problem}

/-- every drain round's choice makes at least the first running worker report (`Fair` for the
    handler's `while runner.pending_task_count() > 0` loop) -/
def FairDrain (ds : List Choice) : Prop := ∀ c ∈ ds, c.finish 0 = true

theorem stayOf_length_lt (c : Choice) (hc : c.finish 0 = true) (l : List Job) (hl : l ≠ []) :
    (stayOf c l).length < l.length := by
  cases l with
  | nil => exact absurd rfl hl
  | cons x xs =>
    rw [stayOf_eq, selN_cons]
    simp only [hc, Bool.not_true, Bool.false_eq_true, if_false]
    exact Nat.lt_succ_of_le (selN_sublist _ xs 1).length_le

/-- the future of `t` is done: `wait` returns it among the done futures -/
def Edone (s : IS) (t : Tid) : Prop := t ∈ s.cancelled ∨ t ∈ s.done.map (·.1)

theorem markDead_facts (u : Tid) (s : IS) :
    (applyPrim cfg p (Prim.markDead u) s).rs.running = s.rs.running ∧
    (applyPrim cfg p (Prim.markDead u) s).rs.futs = s.rs.futs ∧
    (applyPrim cfg p (Prim.markDead u) s).rs.queued = s.rs.queued ∧
    (applyPrim cfg p (Prim.markDead u) s).rs.status = s.rs.status ∧
    (∀ t, Edone s t → Edone (applyPrim cfg p (Prim.markDead u) s) t) ∧
    (∀ t ∈ s.zombies, t ∈ (applyPrim cfg p (Prim.markDead u) s).zombies ∨
      Edone (applyPrim cfg p (Prim.markDead u) s) t) ∧
    (s.rs.status = .running → u ∈ s.zombies → Edone (applyPrim cfg p (Prim.markDead u) s) u) := by
  by_cases hrun : s.rs.status = .running
  · rw [applyPrim_running _ _ hrun]
    by_cases hz : u ∈ s.zombies
    · simp only [stepPrim, hz, if_true, Edone]
      have key : u ∈ s.cancelled ∨ u ∈ (if u ∈ s.cancelled then s.done else s.done ++ [(u, Outcome.died)]).map (·.1) := by
        by_cases hc : u ∈ s.cancelled
        · exact Or.inl hc
        · right; simp [hc]
      refine ⟨trivial, trivial, trivial, trivial, ?_, ?_, fun _ _ => key⟩
      · intro t ht
        rcases ht with h | h
        · exact Or.inl h
        · right
          split
          · exact h
          · simp only [List.map_append, List.mem_append]; exact Or.inl h
      · intro t ht
        by_cases he : t = u
        · subst he; exact Or.inr key
        · exact Or.inl ((List.mem_erase_of_ne he).mpr ht)
    · simp only [stepPrim, hz, if_false]
      exact ⟨trivial, trivial, trivial, trivial, fun _ h => h, fun _ h => Or.inl h, fun _ h => h.elim⟩
  · rw [applyPrim_stopped _ _ hrun]
    exact ⟨rfl, rfl, rfl, rfl, fun _ h => h, fun _ h => Or.inl h, fun h => absurd h hrun⟩

theorem dead_list : ∀ (Z : List Tid) (s : IS), s.rs.status = .running →
    (runPrims cfg p (Z.map Prim.markDead) s).rs.running = s.rs.running ∧
    (runPrims cfg p (Z.map Prim.markDead) s).rs.futs = s.rs.futs ∧
    (runPrims cfg p (Z.map Prim.markDead) s).rs.queued = s.rs.queued ∧
    (runPrims cfg p (Z.map Prim.markDead) s).rs.status = s.rs.status ∧
    (∀ t, Edone s t → Edone (runPrims cfg p (Z.map Prim.markDead) s) t) ∧
    (∀ t ∈ Z, t ∈ s.zombies → Edone (runPrims cfg p (Z.map Prim.markDead) s) t) := by
  intro Z
  induction Z with
  | nil => intro s _; exact ⟨rfl, rfl, rfl, rfl, fun _ h => h, fun t ht => by simp at ht⟩
  | cons u Z ih =>
    intro s hrun
    obtain ⟨m1, m2, m3, m4, m5, m6, m7⟩ := markDead_facts u s
    obtain ⟨i1, i2, i3, i4, i5, i6⟩ := ih (applyPrim cfg p (Prim.markDead u) s) (by rw [m4]; exact hrun)
    rw [List.map_cons, runPrims_cons]
    refine ⟨i1.trans m1, i2.trans m2, i3.trans m3, i4.trans m4, fun t ht => i5 t (m5 t ht), ?_⟩
    intro t ht hz
    by_cases he : t = u
    · subst he; exact i5 t (m7 hrun hz)
    · have ht' : t ∈ Z := by
        rcases List.mem_cons.mp ht with h | h
        · exact absurd h he
        · exact h
      rcases m6 t hz with h | h
      · exact i6 t ht' h
      · exact i5 t h

theorem runPrims_exec (ps : List Prim) (s : IS) (h : ∀ q ∈ ps, q.touchesExec = false) :
    (runPrims cfg p ps s).rs.running = s.rs.running ∧ (runPrims cfg p ps s).rs.futs = s.rs.futs ∧
    (runPrims cfg p ps s).cancelled = s.cancelled ∧ (runPrims cfg p ps s).done = s.done ∧
    (runPrims cfg p ps s).rs.queued = s.rs.queued :=
  ⟨runPrims_keep (fun s => s.rs.running) ps s (fun q hq s => (applyPrim_exec q s (h q hq)).1),
   runPrims_keep (fun s => s.rs.futs) ps s (fun q hq s => (applyPrim_exec q s (h q hq)).2.2.1),
   runPrims_keep (fun s => s.cancelled) ps s (fun q hq s => (applyPrim_exec q s (h q hq)).2.2.2.1),
   runPrims_keep (fun s => s.done) ps s (fun q hq s => (applyPrim_exec q s (h q hq)).2.2.2.2.1),
   runPrims_keep (fun s => s.rs.queued) ps s (fun q hq s => (applyPrim_exec q s (h q hq)).2.2.2.2.2.2.1)⟩

theorem popFuture_facts (t : Tid) (o : Option Outcome) (s : IS) :
    (applyPrim cfg p (Prim.popFuture t o) s).rs.running = s.rs.running ∧
    (applyPrim cfg p (Prim.popFuture t o) s).rs.queued = s.rs.queued ∧
    (∀ x ∈ (applyPrim cfg p (Prim.popFuture t o) s).rs.futs, x ∈ s.rs.futs) ∧
    (∀ x, x ≠ t → Edone s x → Edone (applyPrim cfg p (Prim.popFuture t o) s) x) ∧
    (s.rs.status = .running → t ∉ (applyPrim cfg p (Prim.popFuture t o) s).rs.futs) := by
  by_cases hrun : s.rs.status = .running
  · rw [applyPrim_running _ _ hrun]
    by_cases htf : t ∈ s.rs.futs
    · simp only [stepPrim, htf, if_true, Edone]
      refine ⟨trivial, trivial, fun x hx => (List.mem_filter.mp hx).1, ?_, fun _ => by simp⟩
      intro x hxt hx
      rcases hx with h | h
      · exact Or.inl h
      · right
        obtain ⟨y, hy, rfl⟩ := List.mem_map.mp h
        exact List.mem_map.mpr ⟨y, List.mem_filter.mpr ⟨hy, by simpa using hxt⟩, rfl⟩
    · simp only [stepPrim, htf, if_false, keyErr]
      exact ⟨trivial, trivial, fun _ h => h, fun _ _ h => h, fun _ h => h⟩
  · rw [applyPrim_stopped _ _ hrun]
    exact ⟨rfl, rfl, fun _ h => h, fun _ _ h => h, fun h => absurd h hrun⟩

theorem doneOne_pops (req : List Tid) (s : IS) (t : Tid) :
    (runPrims cfg p (doneOnePrims cfg req s t) s).rs.running = s.rs.running ∧
    (runPrims cfg p (doneOnePrims cfg req s t) s).rs.queued = s.rs.queued ∧
    (∀ x ∈ (runPrims cfg p (doneOnePrims cfg req s t) s).rs.futs, x ∈ s.rs.futs) ∧
    (∀ x, x ≠ t → Edone s x → Edone (runPrims cfg p (doneOnePrims cfg req s t) s) x) ∧
    (s.rs.status = .running → Edone s t → t ∉ (runPrims cfg p (doneOnePrims cfg req s t) s).rs.futs) := by
  simp only [doneOnePrims]
  split
  · obtain ⟨a, b, c, d, e⟩ := popFuture_facts t none s
    exact ⟨a, b, c, d, fun hr _ => e hr⟩
  · next hnc =>
    split
    · next t' o hf =>
      obtain ⟨a, b, c, d, e⟩ := popFuture_facts t (some o) s
      obtain ⟨y1, y2, y3, y4, y5⟩ := runPrims_exec (yieldPrims cfg req s.rs.ts t o)
        (applyPrim cfg p (Prim.popFuture t (some o)) s) (yieldPrims_noexec req _ t o)
      rw [runPrims_cons]
      refine ⟨y1.trans a, y5.trans b, fun x hx => c x (by rw [y2] at hx; exact hx), ?_, ?_⟩
      · intro x hxt hx
        have := d x hxt hx
        simp only [Edone, y3, y4]; exact this
      · intro hr _; rw [y2]; exact e hr
    · next hf =>
      refine ⟨rfl, rfl, fun _ h => h, fun _ _ h => h, ?_⟩
      intro _ he
      exfalso
      rcases he with h | h
      · exact hnc h
      · obtain ⟨y, hy, hyt⟩ := List.mem_map.mp h
        have := List.find?_eq_none.mp hf y hy
        simp [hyt] at this

theorem done_pops (req : List Tid) : ∀ (cands : List Tid) (s : IS),
    (runPrims cfg p (donePrims cfg p req cands s) s).rs.running = s.rs.running ∧
    (runPrims cfg p (donePrims cfg p req cands s) s).rs.queued = s.rs.queued ∧
    (∀ x ∈ (runPrims cfg p (donePrims cfg p req cands s) s).rs.futs, x ∈ s.rs.futs) ∧
    ((runPrims cfg p (donePrims cfg p req cands s) s).rs.status = .running →
      ∀ x ∈ (runPrims cfg p (donePrims cfg p req cands s) s).rs.futs, x ∈ cands → ¬ Edone s x) := by
  intro cands
  induction cands with
  | nil => intro s; exact ⟨rfl, rfl, fun _ h => h, fun _ x _ hx => by simp at hx⟩
  | cons t rest ih =>
    intro s
    by_cases hrun : s.rs.status = .running
    · rw [donePrims_cons_running req t rest s hrun, runPrims_append]
      obtain ⟨d1, d2, d3, d4, d5⟩ := doneOne_pops req s t
      obtain ⟨i1, i2, i3, i4⟩ := ih (runPrims cfg p (doneOnePrims cfg req s t) s)
      refine ⟨i1.trans d1, i2.trans d2, fun x hx => d3 x (i3 x hx), ?_⟩
      intro hr x hx hxc he
      by_cases hxt : x = t
      · subst hxt; exact d5 hrun he (i3 x hx)
      · have hxr : x ∈ rest := by
          rcases List.mem_cons.mp hxc with h | h
          · exact absurd h hxt
          · exact h
        exact i4 hr x hx hxr (d4 x hxt he)
    · rw [donePrims_stopped req _ s hrun]
      exact ⟨rfl, rfl, fun _ h => h, fun hr => absurd hr hrun⟩

theorem drain_round (req : List Tid) (c : Choice) (s : IS) (hb : cfg.backend ≠ .serial)
    (hrun : s.rs.status = .running) (hq : s.rs.queued = []) (hcov : CovX cfg [] s) :
    (runPrims cfg p (waitPrims cfg p req c s) s).rs.queued = [] ∧
    (runPrims cfg p (waitPrims cfg p req c s) s).rs.running = stayOf c s.rs.running ∧
    ((runPrims cfg p (waitPrims cfg p req c s) s).rs.status = .running →
      ∀ t ∈ (runPrims cfg p (waitPrims cfg p req c s) s).rs.futs,
        t ∈ (runPrims cfg p (waitPrims cfg p req c s) s).rs.running.map Job.tid) := by
  simp only [waitPrims, hb, if_false]
  -- the state after the result queue was consumed
  have e0 : runPrims cfg p [Prim.consumeResults c] s = applyPrim cfg p (Prim.consumeResults c) s := rfl
  obtain ⟨c1, c2⟩ := covered_mono (Prim.consumeResults c) s rfl hrun
  have r0 : (applyPrim cfg p (Prim.consumeResults c) s).rs.running = stayOf c s.rs.running := by
    rw [applyPrim_running _ _ hrun]; rfl
  have q0 : (applyPrim cfg p (Prim.consumeResults c) s).rs.queued = [] := by
    rw [applyPrim_queued _ _ rfl]; exact hq
  have st0 : (applyPrim cfg p (Prim.consumeResults c) s).rs.status = .running := by
    rw [applyPrim_status _ _ rfl]; exact hrun
  obtain ⟨s0, hs0⟩ : ∃ s0, s0 = applyPrim cfg p (Prim.consumeResults c) s := ⟨_, rfl⟩
  rw [← hs0] at c1 c2 r0 q0 st0
  rw [e0, ← hs0]
  -- the dead-process loop
  obtain ⟨m1, m2, m3, m4, m5, m6⟩ := dead_list (cfg := cfg) (p := p) s0.zombies s0 st0
  have hsp : startProcessesPrims cfg (runPrims cfg p (deadPrims s0) s0) = [] := by
    simp only [startProcessesPrims, deadPrims, m3, q0, startPrims_nil_of]
  rw [hsp, List.append_nil, runPrims_append, runPrims_cons, ← hs0, runPrims_nil]
  simp only [deadPrims] at *
  obtain ⟨s1, hs1⟩ : ∃ s1, s1 = runPrims cfg p (s0.zombies.map Prim.markDead) s0 := ⟨_, rfl⟩
  rw [← hs1] at m1 m2 m3 m4 m5 m6 ⊢
  obtain ⟨d1, d2, d3, d4⟩ := done_pops req s1.rs.futs s1
  refine ⟨by rw [d2, m3, q0], by rw [d1, m1, r0], ?_⟩
  intro hr t ht
  have ht1 : t ∈ s1.rs.futs := d3 t ht
  have hne : ¬ Edone s1 t := d4 hr t ht ht1
  have ht0 : t ∈ s.rs.futs := by rw [m2, c1] at ht1; exact ht1
  rw [d1, m1]
  rcases c2 t (hcov hb hrun t (Or.inl ht0)) with h | h | h | h | h
  · exact absurd (m5 t (Or.inl h)) hne
  · exact absurd (m5 t (Or.inr h)) hne
  · exact absurd (m6 t h h) hne
  · exact h
  · rw [q0] at h; simp at h

theorem drainPrims_nofuts (req : List Tid) (ds : List Choice) (s : IS) (h : s.rs.futs = []) :
    drainPrims cfg p req ds s = [] := by
  cases ds with
  | nil => rfl
  | cons c cs => unfold drainPrims; split <;> simp [h]

theorem drainPrims_cons_running (req : List Tid) (c : Choice) (cs : List Choice) (s : IS)
    (hrun : s.rs.status = .running) (hf : s.rs.futs ≠ []) :
    drainPrims cfg p req (c :: cs) s =
      waitPrims cfg p req c s ++ drainPrims cfg p req cs (runPrims cfg p (waitPrims cfg p req c s) s) := by
  conv => lhs; unfold drainPrims
  simp [hrun, hf]

theorem drain_fair (req : List Tid) (hb : cfg.backend ≠ .serial) : ∀ (ds : List Choice) (s : IS),
    FairDrain ds → s.rs.queued = [] → CovX cfg [] s → s.rs.running.length + 1 ≤ ds.length →
    (runPrims cfg p (drainPrims cfg p req ds s) s).rs.status = .running →
    (runPrims cfg p (drainPrims cfg p req ds s) s).rs.futs = [] := by
  intro ds
  induction ds with
  | nil => intro s _ _ _ hl _; simp at hl
  | cons c cs ih =>
    intro s hfair hq hcov hl hfin
    by_cases hrun : s.rs.status = .running
    · by_cases hf : s.rs.futs = []
      · rw [drainPrims_nofuts req _ s hf]; exact hf
      · rw [drainPrims_cons_running req c cs s hrun hf, runPrims_append] at hfin ⊢
        have hc : c.finish 0 = true := hfair c List.mem_cons_self
        obtain ⟨r1, r2, r3⟩ := drain_round req c s hb hrun hq hcov
        have hcov1 := (always_Cov_wait (cfg := cfg) (p := p) req c s hcov).last
        by_cases hrun1 : (runPrims cfg p (waitPrims cfg p req c s) s).rs.status = .running
        · by_cases hr : s.rs.running = []
          · have hf1 : (runPrims cfg p (waitPrims cfg p req c s) s).rs.futs = [] := by
              cases hfe : (runPrims cfg p (waitPrims cfg p req c s) s).rs.futs with
              | nil => rfl
              | cons t l =>
                have := r3 hrun1 t (by rw [hfe]; exact List.mem_cons_self)
                rw [r2, hr] at this
                simp [stayOf, enumFrom] at this
            rw [drainPrims_nofuts req _ _ hf1]; exact hf1
          · have hlt := stayOf_length_lt c hc s.rs.running hr
            apply ih _ (fun c' hc' => hfair c' (List.mem_cons_of_mem _ hc')) r1 hcov1 _ hfin
            rw [r2]
            simp only [List.length_cons] at hl
            omega
        · rw [drainPrims_stopped req _ _ hrun1] at hfin
          exact absurd hfin hrun1
    · rw [drainPrims_stopped req _ s hrun] at hfin
      exact absurd hfin hrun

/-- no stream makes the run return: the handlers leave by `raise` -/
theorem NoRet_runs {store : Store} {fuel : Nat} (a b : List Prim) :
    NoRet (runPrims cfg p b (runPrims cfg p a (initIS cfg p store fuel))) :=
  runPrims_NoRet _ _ (runPrims_NoRet _ _ (fun r hr => by simp [initIS, initRS] at hr))

/-- a stream that ends without a raised exception started in a running state -/
theorem running_of_not_raised (ps : List Prim) (s : IS) (hn : NoRet s)
    (h : ∀ e, (runPrims cfg p ps s).rs.status ≠ .raised e) : s.rs.status = .running := by
  cases hs : s.rs.status with
  | running => rfl
  | returned r => exact absurd hs (hn r)
  | raised e => exact absurd (by rw [runPrims_stopped _ _ (by rw [hs]; simp)]; exact hs) (h e)

/-- the first handler under a fair drain schedule with more rounds than workers in the running map:
    when it leaves without an exception of its own, `future_to_task` is empty -/
theorem handler_fair (req : List Tid) (ds : List Choice) (s : IS) (hfair : FairDrain ds)
    (hcov : CovX cfg [] s) (hl : s.rs.running.length + 1 ≤ ds.length)
    (hfin : (runPrims cfg p (handlerPrims cfg p req ds s) s).rs.status = .running) :
    (runPrims cfg p (handlerPrims cfg p req ds s) s).rs.futs = [] := by
  by_cases hrun : s.rs.status = .running
  · simp only [handlerPrims, runPrims_append] at hfin ⊢
    by_cases hb : cfg.backend = .serial
    · have hf : (runPrims cfg p (cancelPrims cfg s) s).rs.futs = [] := by
        simp [cancelPrims, hb, applyPrim_running _ _ hrun, stepPrim]
      rw [drainPrims_nofuts req _ _ hf]; exact hf
    · have hq := cancelPrims_empties (cfg := cfg) (p := p) s hrun
      have hc := (always_Cov_cancel (cfg := cfg) (p := p) s hcov).last
      have hr : (runPrims cfg p (cancelPrims cfg s) s).rs.running = s.rs.running := by
        simp only [cancelPrims, hb, if_false]
        exact runPrims_keep (fun s => s.rs.running) _ s (fun q hq s => by
          obtain ⟨j, _, rfl⟩ := List.mem_map.mp hq; exact (applyPrim_w _ s rfl).2.1)
      exact drain_fair req hb ds _ hfair hq hc (by rw [hr]; exact hl) hfin
  · rw [runPrims_stopped _ _ hrun] at hfin
    exact absurd hfin hrun

end Lt
